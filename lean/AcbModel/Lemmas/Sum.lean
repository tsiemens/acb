/-
  Finite sums over a list of affiliates: the ledger's `sumOver` is `Costs.sumOver` at `Aff`, and
  these are its lemmas under the names the ledger proofs use.
-/
import AcbModel.Ledger.Sfl
import AcbModel.Lemmas.SumOver
namespace Acb

@[simp] theorem sumOver_nil (f : Aff → Rat) : sumOver [] f = 0 := rfl

@[simp] theorem sumOver_cons (a : Aff) (l : List Aff) (f : Aff → Rat) :
    sumOver (a :: l) f = f a + sumOver l f := Costs.sumOver_cons a l f

theorem sumOver_append (l₁ l₂ : List Aff) (f : Aff → Rat) :
    sumOver (l₁ ++ l₂) f = sumOver l₁ f + sumOver l₂ f := Costs.sumOver_append l₁ l₂ f

theorem sumOver_zero (l : List Aff) : sumOver l (fun _ => (0 : Rat)) = 0 := Costs.sumOver_zero l

theorem sumOver_congr {l : List Aff} {f g : Aff → Rat} (h : ∀ a ∈ l, f a = g a) :
    sumOver l f = sumOver l g := Costs.sumOver_congr h

theorem sumOver_nonneg {l : List Aff} {f : Aff → Rat} (h : ∀ a ∈ l, 0 ≤ f a) : 0 ≤ sumOver l f :=
  Costs.sumOver_nonneg h

theorem le_sumOver {l : List Aff} {f : Aff → Rat} (h : ∀ a ∈ l, 0 ≤ f a) {a : Aff} (ha : a ∈ l) :
    f a ≤ sumOver l f := Costs.le_sumOver h ha

theorem sumOver_point {U : List Aff} (hn : U.Nodup) {f g : Aff → Rat} {a : Aff} (ha : a ∈ U)
    (h : ∀ x, x ≠ a → g x = f x) : sumOver U g = sumOver U f - f a + g a := Costs.sumOver_point hn ha h

theorem sumOver_upd {l : List Aff} (hn : l.Nodup) {f : Aff → Rat} {a : Aff} (ha : a ∈ l) (v : Rat) :
    sumOver l (fun x => if x = a then v else f x) = sumOver l f - f a + v := by
  rw [sumOver_point hn ha (f := f) fun x hx => if_neg hx, if_pos rfl]

theorem sumOver_add (l : List Aff) (f g : Aff → Rat) :
    sumOver l (fun a => f a + g a) = sumOver l f + sumOver l g := Costs.sumOver_add l f g

theorem sumOver_mul_right (l : List Aff) (f : Aff → Rat) (c : Rat) :
    sumOver l (fun a => f a * c) = sumOver l f * c := Costs.sumOver_mul_right l f c

end Acb
