/-
  Two runs over the same rows, from trackers that agree on the observables and with processed rows
  `X ++ P`, `X' ++ P'` (`X`, `X'` equal up to declared amounts), produce the same deltas and failure
  as long as `P` and `P'` lie before the window of every sale at a loss still to come.
-/
import AcbModel.Lemmas.WindowErase
import AcbModel.App.Summary
namespace Acb

theorem stepRow_sim {t t' : Tracker} (h : ObsEq t t') (x : Tx) {X X' : List Tx} (P P' : List Tx)
    {f f' : List Tx} (hX : PastSim X X') (hf : FutSim f f')
    (hfar : IsLossSale t x → FarFor P x ∧ FarFor P' x) :
    (∀ d t2 inj, stepRow t x (X ++ P) f = .ok (d, t2, inj) →
      ∃ t2', stepRow t' x (X' ++ P') f' = .ok (d, t2', inj) ∧ ObsEq t2 t2') ∧
      ∀ e, stepRow t x (X ++ P) f = .error e → stepRow t' x (X' ++ P') f' = .error e :=
  stepRow_obs h fun hl sold => by
    obtain ⟨hP, hP'⟩ := hfar hl
    obtain ⟨sh, px, comm, rate, crate, spec, _, hact, _⟩ := hl
    exact sflRatio_congr h (scanBwd_sim hX (hP _ _ _ _ _ _ hact) (hP' _ _ _ _ _ _ hact)) (hf.scan t _)

theorem Runs.far {P P' r : List Tx} {t : Tracker} {X p : List Tx} {ds : List Delta} {e : RunEnd}
    (h : Runs r t (X ++ P) p ds e) (hfar : ∀ x ∈ p, FarFor P x ∧ FarFor P' x)
    {t' : Tracker} {X' : List Tx} (hobs : ObsEq t t') (hX : PastSim X X') :
    ∃ e', Runs r t' (X' ++ P') p ds e' ∧ e'.failure = e.failure := by
  generalize hp : X ++ P = past at h
  induction h generalizing t' X X' with
  | done => exact ⟨_, .done, rfl⟩
  | fail hs =>
    subst hp
    exact ⟨_, .fail ((stepRow_sim hobs _ P P' hX (.refl _) fun _ => hfar _ (by simp)).2 _ hs), rfl⟩
  | step hs _ ih =>
    subst hp
    obtain ⟨t2', hs', hobs'⟩ := (stepRow_sim hobs _ P P' hX (.refl _) fun _ => hfar _ (by simp)).1 _ _ _ hs
    obtain ⟨e', hr', he'⟩ := ih (fun y hy => (List.mem_append.mp hy).elim
      (fun hy => ⟨(stepRow_inj hs y hy).farFor P, (stepRow_inj hs y hy).farFor P'⟩)
      (fun hy => hfar y (by simp [hy]))) hobs' (hX.cons rfl) rfl
    exact ⟨e', .step hs' hr', he'⟩

theorem deltaLoop_far (P P' : List Tx) :
    ∀ (rest : List Tx), (∀ x ∈ rest, FarFor P x ∧ FarFor P' x) →
    ∀ (t t' : Tracker), ObsEq t t' → ∀ (X : List Tx) (acc acc' : List Delta),
      ∃ out, deltaLoop t (X ++ P) acc rest = (acc ++ out, (deltaLoop t (X ++ P) acc rest).2) ∧
        deltaLoop t' (X ++ P') acc' rest = (acc' ++ out, (deltaLoop t (X ++ P) acc rest).2) := by
  intro rest hfar t t' h X acc acc'
  obtain ⟨ds, e, hr⟩ := Runs.exists [] t (X ++ P) rest
  obtain ⟨e', hr', he'⟩ := hr.far hfar h (.refl X)
  exact ⟨ds, by rw [hr.deltaLoop], by rw [hr'.deltaLoop, hr.deltaLoop, he']⟩

theorem stepRow_flag {t t2 : Tracker} {x : Tx} {past future : List Tx} {d : Delta} {inj : List Tx}
    (hs : stepRow t x past future = .ok (d, t2, inj)) (hl : IsLossSale t x) : d.isLossOrSfl = true := by
  obtain ⟨_, o, ho, _, rfl, _⟩ := stepRow_ok_iff.mp hs
  obtain ⟨sh, px, comm, rate, crate, spec, aps, hact, hp, hg⟩ := hl
  rw [arm_sell hact] at ho
  have hgain : o.gain = some (px * sh * rate - comm * commRate rate crate - aps * sh - sflLoss o.sfl) := by
    rcases (armSell_ok ho).2.2 with ⟨hp', -⟩ | ⟨_, r, hp', rfl, -⟩
    · rw [hp] at hp'
      cases hp'
    · cases hp.symm.trans hp'
      exact sellOut_gain ..
  -- without a superficial loss (or with one of 0) the gain is the negative `g` itself
  unfold Delta.isLossOrSfl Delta.isSfl
  simp only [hgain]
  cases hsfl : o.sfl with
  | none => simp [sflLoss, rat_sub_zero, hg]
  | some i =>
    by_cases hi : i.loss = 0
    · simp [sflLoss, hi, rat_sub_zero, hg]
    · simp [hi]

/-- The window condition need only hold of the deltas flagged as a loss or superficial loss: the
    test the range selection of the summary applies. -/
theorem Runs.flaggedFar {P P' r : List Tx} {t : Tracker} {X p : List Tx} {ds : List Delta} {e : RunEnd}
    (h : Runs r t (X ++ P) p ds e) (he : e.failure = none)
    (hfar : ∀ d ∈ ds, d.isLossOrSfl = true → FarFor P d.tx ∧ FarFor P' d.tx)
    {t' : Tracker} {X' : List Tx} (hobs : ObsEq t t') (hX : PastSim X X') :
    ∃ e', Runs r t' (X' ++ P') p ds e' ∧ e'.failure = none := by
  generalize hp : X ++ P = past at h
  induction h generalizing t' X X' with
  | done => exact ⟨_, .done, rfl⟩
  | fail => cases he
  | step hs _ ih =>
    subst hp
    obtain ⟨t2', hs', hobs'⟩ := (stepRow_sim hobs _ P P' hX (.refl _) fun hl =>
      stepRow_tx hs ▸ hfar _ (by simp) (stepRow_flag hs hl)).1 _ _ _ hs
    obtain ⟨e', hr', he'⟩ := ih he (fun d hd => hfar d (by simp [hd])) hobs' (hX.cons rfl) rfl
    exact ⟨e', .step hs' hr', he'⟩

theorem deltaLoop_flaggedFar {P P' : List Tx} {rest : List Tx} {t t' : Tracker} (h : ObsEq t t')
    {X X' : List Tx} (hX : PastSim X X') (hok : (deltaLoop t (X ++ P) [] rest).2 = none)
    (hfar : ∀ d ∈ (deltaLoop t (X ++ P) [] rest).1, d.isLossOrSfl = true → FarFor P d.tx ∧ FarFor P' d.tx) :
    deltaLoop t' (X' ++ P') [] rest = deltaLoop t (X ++ P) [] rest := by
  obtain ⟨ds, e, hr, he⟩ := deltaLoop_runs rest t (X ++ P) []
  rw [he] at hok hfar ⊢
  obtain ⟨e', hr', he'⟩ := hr.flaggedFar hok (by simpa using hfar) h hX
  have hok' : e.failure = none := hok
  rw [hr'.deltaLoop, he', hok']

theorem deltaLoop_sim (P P' : List Tx) :
    ∀ (rest : List Tx) (t t' : Tracker), ObsEq t t' → ∀ (X X' : List Tx), PastSim X X' →
      SettleAsc rest →
      (deltaLoop t (X ++ P) [] rest).2 = none →
      (∀ d ∈ (deltaLoop t (X ++ P) [] rest).1, d.isLossOrSfl = true → FarFor P d.tx ∧ FarFor P' d.tx) →
      deltaLoop t' (X' ++ P') [] rest = deltaLoop t (X ++ P) [] rest :=
  fun _ _ _ h _ _ hX _ hok hfar => deltaLoop_flaggedFar h hX hok hfar

theorem deltaLoop_far2 (P P' : List Tx) :
    ∀ (rest : List Tx) (t t' : Tracker), ObsEq t t' → ∀ (X : List Tx),
      (deltaLoop t (X ++ P) [] rest).2 = none →
      (∀ d ∈ (deltaLoop t (X ++ P) [] rest).1, d.isLossOrSfl = true → FarFor P d.tx ∧ FarFor P' d.tx) →
      deltaLoop t' (X ++ P') [] rest = deltaLoop t (X ++ P) [] rest :=
  fun _ _ _ h X hok hfar => deltaLoop_flaggedFar h (.refl X) hok hfar

end Acb
