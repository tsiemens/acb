/-
  Affiliate spellings (C11): the display name produced by `AffiliateData::from_strep` is a fixed
  point — reading it back gives the same id, name and registered flag — and it is trimmed and
  not blank.
-/
import AcbModel.App.CsvCodec
import AcbModel.Lemmas.CsvText
namespace Acb.Csv

theorem regAt_iff {l : Str} :
    regAt l = true ↔ ∃ x r, l = '(' :: x :: ')' :: r ∧ (x = 'r' ∨ x = 'R') := by
  constructor
  · intro h
    unfold regAt at h
    split at h
    · rename_i c r
      exact ⟨c, r, rfl, by simpa using h⟩
    · cases h
  · rintro ⟨x, r, rfl, rfl | rfl⟩ <;> rfl

theorem regAt_append_of (t u : Str) (h : regAt t = true) : regAt (t ++ u) = true := by
  obtain ⟨x, r, rfl, hx⟩ := regAt_iff.1 h
  exact regAt_iff.2 ⟨x, r ++ u, rfl, hx⟩

theorem hasReg_cons_false {c : Char} {r : Str} (h : hasReg (c :: r) = false) :
    regAt (c :: r) = false ∧ hasReg r = false := by
  simpa [hasReg] using h

theorem hasReg_append_false {a b : Str} (h : hasReg (a ++ b) = false) :
    hasReg a = false ∧ hasReg b = false := by
  induction a with
  | nil => exact ⟨rfl, h⟩
  | cons c r ih =>
    obtain ⟨h1, h2⟩ := hasReg_cons_false h
    obtain ⟨ha, hb⟩ := ih h2
    refine ⟨?_, hb⟩
    simp only [hasReg, ha, Bool.or_false]
    exact Bool.eq_false_iff.2 (fun hr => Bool.eq_false_iff.1 h1 (regAt_append_of _ b hr))

/-- A transformation that hands on a first character other than a space cannot complete a
    `(r)` that was not there. -/
theorem regAt_cons_of_keeps {f : Str → Str}
    (hf : ∀ l y, (f l).head? = some y → y ≠ ' ' → ∃ r, l = y :: r ∧ f l = y :: f r)
    {c : Char} {r : Str} (h : regAt (c :: f r) = true) : regAt (c :: r) = true := by
  obtain ⟨x, r', hl, hx⟩ := regAt_iff.1 h
  obtain ⟨rfl, hfr⟩ := List.cons.inj hl
  obtain ⟨r1, rfl, h1⟩ := hf r x (by rw [hfr]; rfl) (by rcases hx with rfl | rfl <;> decide)
  rw [h1] at hfr
  obtain ⟨r2, rfl, _⟩ := hf r1 ')' (by rw [(List.cons.inj hfr).2]; rfl) (by decide)
  exact regAt_iff.2 ⟨x, r2, rfl, hx⟩

theorem replaceRegGo_keeps (l : Str) (y : Char) (h : (replaceRegGo 0 l).head? = some y)
    (hy : y ≠ ' ') : ∃ r, l = y :: r ∧ replaceRegGo 0 l = y :: replaceRegGo 0 r := by
  cases l with
  | nil => simp [replaceRegGo] at h
  | cons c r =>
    simp only [replaceRegGo] at h ⊢
    split at h
    · exact absurd (Option.some.inj h).symm hy
    · rename_i hreg
      obtain rfl := Option.some.inj h
      exact ⟨r, rfl, by rw [if_neg hreg]⟩

theorem hasReg_replaceRegGo (k : Nat) (s : Str) : hasReg (replaceRegGo k s) = false := by
  induction s generalizing k with
  | nil => cases k <;> rfl
  | cons c r ih =>
    cases k with
    | succ k =>
      simp only [replaceRegGo]
      exact ih k
    | zero =>
      simp only [replaceRegGo]
      split
      · simp only [hasReg, ih 2, Bool.or_false]
        rfl
      · rename_i hreg
        simp only [hasReg, ih 0, Bool.or_false]
        exact Bool.eq_false_iff.2 (fun hr => hreg (regAt_cons_of_keeps replaceRegGo_keeps hr))

theorem regAt_append_space (t u : Str) : regAt (t ++ ' ' :: u) = regAt t := by
  rw [Bool.eq_iff_iff, regAt_iff, regAt_iff]
  constructor
  · rintro ⟨x, r, hl, hx⟩
    have hx0 : x ≠ ' ' := by rcases hx with rfl | rfl <;> decide
    -- the three characters of a match `(x)` starting in `t` lie in `t`, for none of them is a space
    match t, hl with
    | [], hl => simp at hl
    | [a], hl =>
      simp at hl
      exact absurd hl.2.1.symm hx0
    | [a, b], hl => simp at hl
    | a :: b :: c :: t', hl =>
      obtain ⟨rfl, rfl, rfl, _⟩ := hl
      exact ⟨_, t', rfl, hx⟩
  · rintro ⟨x, r, rfl, hx⟩
    exact ⟨x, r ++ ' ' :: u, rfl, hx⟩

theorem replaceRegGo0_append_space (P u : Str) (h : hasReg P = false) :
    replaceRegGo 0 (P ++ ' ' :: u) = P ++ replaceRegGo 0 (' ' :: u) := by
  induction P with
  | nil => rfl
  | cons c r ih =>
    obtain ⟨h1, h2⟩ := hasReg_cons_false h
    have : regAt (c :: (r ++ ' ' :: u)) = false := by
      rw [← List.cons_append, regAt_append_space, h1]
    simp only [List.cons_append, replaceRegGo, this, Bool.false_eq_true, if_false, ih h2]

/-- no two spaces in a row -/
def noDbl : Str → Bool
  | c :: c2 :: r => !(c == ' ' && c2 == ' ') && noDbl (c2 :: r)
  | _ => true

/-- `noDbl` through the test `collapseSpaces` makes at each character -/
theorem noDbl_cons (c : Char) (m : Str) :
    noDbl (c :: m) = (!(c == ' ' && m.head? == some ' ') && noDbl m) := by
  cases m <;> simp [noDbl]

theorem head_collapse (l : Str) : (collapseSpaces l).head? = l.head? := by
  fun_induction collapseSpaces l <;> simp_all

theorem collapse_keeps (l : Str) (y : Char) (h : (collapseSpaces l).head? = some y) (hy : y ≠ ' ') :
    ∃ r, l = y :: r ∧ collapseSpaces l = y :: collapseSpaces r := by
  rw [head_collapse] at h
  obtain ⟨r, rfl⟩ := List.head?_eq_some_iff.1 h
  exact ⟨r, rfl, by simp [collapseSpaces, hy]⟩

theorem hasReg_collapse (l : Str) (h : hasReg l = false) : hasReg (collapseSpaces l) = false := by
  induction l with
  | nil => rfl
  | cons c r ih =>
    obtain ⟨h1, h2⟩ := hasReg_cons_false h
    simp only [collapseSpaces]
    split
    · exact ih h2
    · simp only [hasReg, ih h2, Bool.or_false]
      exact Bool.eq_false_iff.2 (fun hr => Bool.eq_false_iff.1 h1 (regAt_cons_of_keeps collapse_keeps hr))

theorem noDbl_collapse (l : Str) : noDbl (collapseSpaces l) = true := by
  fun_induction collapseSpaces l with
  | case1 => rfl
  | case2 c r _ ih => exact ih
  | case3 c r h ih =>
    rw [noDbl_cons, head_collapse, ih, Bool.eq_false_iff.2 h]
    rfl

theorem collapse_of_noDbl (l : Str) (h : noDbl l = true) : collapseSpaces l = l := by
  induction l with
  | nil => rfl
  | cons c r ih =>
    rw [noDbl_cons, Bool.and_eq_true, Bool.not_eq_true'] at h
    rw [collapseSpaces, h.1, ih h.2]
    rfl

theorem noDbl_append {a b : Str} (h : noDbl (a ++ b) = true) : noDbl a = true ∧ noDbl b = true := by
  induction a with
  | nil => exact ⟨rfl, h⟩
  | cons c r ih =>
    rw [List.cons_append, noDbl_cons, Bool.and_eq_true] at h
    refine ⟨?_, (ih h.2).2⟩
    rw [noDbl_cons, (ih h.2).1, Bool.and_true]
    cases r with
    | nil => simp
    | cons c2 r2 => exact h.1

theorem collapse_append (P Q : Str) (hnd : noDbl P = true)
    (hlast : ∀ x, P.getLast? = some x → x ≠ ' ') :
    collapseSpaces (P ++ Q) = P ++ collapseSpaces Q := by
  induction P with
  | nil => rfl
  | cons c r ih =>
    rw [noDbl_cons, Bool.and_eq_true, Bool.not_eq_true'] at hnd
    have hcond : (c == ' ' && (r ++ Q).head? == some ' ') = false := by
      cases r with
      | nil => simp [hlast c rfl]
      | cons c2 r2 => exact hnd.1
    rw [List.cons_append, collapseSpaces, hcond, ih hnd.2 (fun x hx => hlast x ?_)]
    · rfl
    · cases r with
      | nil => cases hx
      | cons c2 r2 =>
        rw [List.getLast?_cons_cons]
        exact hx

/-- the display name before the `(R)` suffix is added -/
def prettyOf (s : Str) : Str :=
  let p1 := trim (collapseSpaces (if hasReg s then replaceReg s else s))
  if p1.isEmpty then defaultName else p1

theorem fromStrep_eq (s : Str) :
    fromStrep s = if hasReg s then ⟨lower (prettyOf s) ++ regSuffix, prettyOf s ++ regSuffix, true⟩
                  else ⟨lower (prettyOf s), prettyOf s, false⟩ := rfl

/-- What `from_strep` guarantees of the display name before the ` (R)` suffix. -/
structure Pretty (P : Str) : Prop where
  noReg : hasReg P = false
  ne : P ≠ []
  headOk : ∀ x, P.head? = some x → isWs x = false
  lastOk : ∀ x, P.getLast? = some x → isWs x = false
  nd : noDbl P = true

theorem pretty_default : Pretty defaultName := by
  refine ⟨by decide, by decide, fun x hx => ?_, fun x hx => ?_, by decide⟩
  · cases hx
    decide
  · cases hx
    decide

theorem pretty_prettyOf (s : Str) : Pretty (prettyOf s) := by
  unfold prettyOf
  have h0 : hasReg (if hasReg s then replaceReg s else s) = false := by
    cases h : hasReg s with
    | true =>
      simp only [if_true]
      exact hasReg_replaceRegGo 0 s
    | false => simpa using h
  generalize (if hasReg s then replaceReg s else s) = X at h0 ⊢
  by_cases hne : (trim (collapseSpaces X)).isEmpty = true
  · rw [if_pos hne]
    exact pretty_default
  · rw [if_neg hne]
    have hne' : trim (collapseSpaces X) ≠ [] := by simpa using hne
    obtain ⟨a, b, hab, _, _⟩ := trim_decomp (collapseSpaces X)
    have hreg := hasReg_collapse X h0
    have hnd := noDbl_collapse X
    rw [hab] at hreg hnd
    exact ⟨(hasReg_append_false (hasReg_append_false hreg).1).2, hne', trim_head_not_ws _,
      trim_last_not_ws _, (noDbl_append (noDbl_append hnd).1).2⟩

theorem Pretty.trim_eq {P : Str} (h : Pretty P) : trim P = P := trim_eq_self P h.headOk h.lastOk

theorem space_is_ws : isWs ' ' = true := by decide

theorem prettyOf_self {P : Str} (h : Pretty P) : prettyOf P = P := by
  unfold prettyOf
  simp only [h.noReg, Bool.false_eq_true, if_false, collapse_of_noDbl P h.nd, h.trim_eq]
  have : P.isEmpty = false := by simpa using h.ne
  simp [this]

theorem prettyOf_suffix {P : Str} (h : Pretty P) :
    hasReg (P ++ regSuffix) = true ∧ prettyOf (P ++ regSuffix) = P := by
  have hs : hasReg (P ++ regSuffix) = true :=
    Bool.of_not_eq_false fun hr => absurd (hasReg_append_false hr).2 (by decide)
  have h1 : replaceReg (P ++ regSuffix) = P ++ [' ', ' '] := by
    unfold replaceReg
    rw [show regSuffix = ' ' :: ['(', 'R', ')'] by decide, replaceRegGo0_append_space P _ h.noReg]
    rfl
  have hlast : ∀ x, P.getLast? = some x → x ≠ ' ' :=
    fun x hx hsp => absurd (hsp ▸ h.lastOk x hx) (by decide)
  have h2 : trim (P ++ [' ']) = P := by
    simpa using trim_pad_of_ends (a := []) (b := [' ']) (by simp) (by simp [space_is_ws]) h.headOk h.lastOk
  have hne : P.isEmpty = false := by simpa using h.ne
  refine ⟨hs, ?_⟩
  unfold prettyOf
  simp only [hs, if_true]
  rw [h1, collapse_append P _ h.nd hlast, show collapseSpaces [' ', ' '] = [' '] from rfl, h2]
  simp [hne]

theorem affiliate_name_fixpoint (s : Str) : fromStrep (fromStrep s).name = fromStrep s := by
  have hP := pretty_prettyOf s
  rw [fromStrep_eq s]
  cases hreg : hasReg s with
  | true =>
    simp only [if_true]
    obtain ⟨h1, h2⟩ := prettyOf_suffix hP
    rw [fromStrep_eq, h1, h2]
    rfl
  | false =>
    simp only [Bool.false_eq_true, if_false]
    rw [fromStrep_eq, hP.noReg, prettyOf_self hP]
    rfl

theorem fromStrep_name (s : Str) :
    (fromStrep s).name = prettyOf s ++ (if hasReg s then regSuffix else []) := by
  rw [fromStrep_eq]
  cases hasReg s <;> simp

theorem fromStrep_name_ne_nil (s : Str) : (fromStrep s).name ≠ [] := by
  rw [fromStrep_name]
  intro h
  exact (pretty_prettyOf s).ne (List.append_eq_nil_iff.1 h).1

theorem fromStrep_name_trimmed (s : Str) : trim (fromStrep s).name = (fromStrep s).name := by
  have hP := pretty_prettyOf s
  rw [fromStrep_name]
  cases hasReg s with
  | false => simpa using hP.trim_eq
  | true =>
    refine trim_eq_self _ (fun x hx => hP.headOk x ?_) (fun x hx => ?_)
    · obtain ⟨c, r, hcr⟩ := List.exists_cons_of_ne_nil hP.ne
      rw [hcr] at hx ⊢
      exact hx
    · have : regSuffix.getLast? = some ')' := by decide
      rw [if_pos rfl, List.getLast?_append, this] at hx
      cases hx
      decide

end Acb.Csv
