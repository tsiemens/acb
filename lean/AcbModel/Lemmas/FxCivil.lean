/-
  The Gregorian calendar of the driver satisfies the calendar law the theorems assume.
-/
import AcbModel.Fx.Civil
import AcbModel.Fx.Valid
namespace Acb.Fx

/-- Year starts lie within two days of the line of the mean year (365.2425 days): that is why the
    year estimated from the mean year length is off by at most one. -/
theorem civilYearStart_near (y : Int) :
    146097 * (y - 1) - 699 ≤ 400 * (civilYearStart y - 1721426) ∧
    400 * (civilYearStart y - 1721426) ≤ 146097 * (y - 1) + 396 := by
  unfold civilYearStart; omega

theorem civilYearStart_mono {a b : Int} (h : a ≤ b) : civilYearStart a ≤ civilYearStart b := by
  by_cases hab : a = b
  · rw [hab]; exact Int.le_refl _
  · -- for `a < b` the two lines of `civilYearStart_near` are 146097 apart, more than the slack 699 + 396
    have := civilYearStart_near a
    have := civilYearStart_near b
    omega

theorem civil_bounds (d : Int) :
    civilYearStart (civilYearOf d) ≤ d ∧ d < civilYearStart (civilYearOf d + 1) := by
  unfold civilYearOf
  simp only
  generalize hy : (d - 1721426) * 400 / 146097 + 1 = y0
  split
  · have := civilYearStart_near (y0 - 1)
    rw [Int.sub_add_cancel]
    omega
  · split
    · have := civilYearStart_near (y0 + 1 + 1)
      omega
    · omega

theorem civilYearStart_le_iff (y d : Int) : civilYearStart y ≤ d ↔ y ≤ civilYearOf d := by
  have hb := civil_bounds d
  constructor
  · intro h
    false_or_by_contra
    have := civilYearStart_mono (show civilYearOf d + 1 ≤ y by omega)
    omega
  · intro h
    have := civilYearStart_mono h
    omega

theorem civil_ok : civil.OK := by
  intro d y
  show civilYearOf d = y ↔ civilYearStart y ≤ d ∧ d < civilYearStart (y + 1)
  rw [← Int.not_le, civilYearStart_le_iff, civilYearStart_le_iff]
  omega

end Acb.Fx
