/-
  Table-level lemmas of the CSV round trip (C11): all rows of a written table are read back, the
  re-read transactions are the originals (as values), and they are written as the same table.
-/
import AcbModel.Lemmas.CsvRows
namespace Acb.Csv

theorem CurRate.Same.norm_eq {a b : CurRate} (h : a.Same b) : a.norm = b.norm := by
  obtain ⟨ac, ar⟩ := a
  obtain ⟨bc, br⟩ := b
  obtain ⟨h1, h2⟩ := h
  simp only at h1 h2
  simp [CurRate.norm, h1, h2.norm_eq]

theorem Specifics.Same.elim {motive : Specifics → Specifics → Prop} {x y : Specifics} (h : x.Same y)
    (buy : ∀ {s a c cur cc s' a' c' cur' cc'}, s.Same s' → a.Same a' → c.Same c' → cur.Same cur' →
      OptRel CurRate.Same cc cc' → motive (.buy s a c cur cc) (.buy s' a' c' cur' cc'))
    (sell : ∀ {s a c cur cc sfl s' a' c' cur' cc' sfl'}, s.Same s' → a.Same a' → c.Same c' →
      cur.Same cur' → OptRel CurRate.Same cc cc' → OptRel SflSame sfl sfl' →
      motive (.sell s a c cur cc sfl) (.sell s' a' c' cur' cc' sfl'))
    (roc : ∀ {a cur a' cur'}, a.Same a' → cur.Same cur' → motive (.roc a cur) (.roc a' cur'))
    (sfla : ∀ {s a s' a'}, s.Same s' → a.Same a' → motive (.sfla s a) (.sfla s' a'))
    (split : ∀ {r r'}, SplitSame r r' → motive (.split r) (.split r')) : motive x y := by
  cases x <;> cases y
  case buy.buy =>
    obtain ⟨h1, h2, h3, h4, h5⟩ := h
    exact buy h1 h2 h3 h4 h5
  case sell.sell =>
    obtain ⟨h1, h2, h3, h4, h5, h6⟩ := h
    exact sell h1 h2 h3 h4 h5 h6
  case roc.roc => exact roc h.1 h.2
  case sfla.sfla => exact sfla h.1 h.2
  case split.split => exact split h
  all_goals exact False.elim h

theorem Specifics.Same.norm_eq {a b : Specifics} (h : a.Same b) : a.norm = b.norm :=
  have hcc : ∀ {cc cc'}, OptRel CurRate.Same cc cc' → cc.map CurRate.norm = cc'.map CurRate.norm :=
    OptRel.map_eq (fun _ _ hab => hab.norm_eq)
  h.elim (motive := fun a b => a.norm = b.norm)
    (buy := fun h1 h2 h3 h4 h5 => by
      simp only [Specifics.norm, h1.norm_eq, h2.norm_eq, h3.norm_eq, h4.norm_eq, hcc h5])
    (sell := fun h1 h2 h3 h4 h5 h6 => by
      simp only [Specifics.norm, h1.norm_eq, h2.norm_eq, h3.norm_eq, h4.norm_eq, hcc h5,
        OptRel.map_eq (f := fun v : Dec × Bool => (v.1.norm, v.2))
          (fun a b (hab : SflSame a b) => by simp [hab.1.norm_eq, hab.2]) h6])
    (roc := fun h1 h2 => by simp only [Specifics.norm, h1.norm_eq, h2.norm_eq])
    (sfla := fun h1 h2 => by simp only [Specifics.norm, h1.norm_eq, h2.norm_eq])
    (split := fun h => by simp only [Specifics.norm, h.1.pre.norm_eq, h.1.post.norm_eq, h.1.intOnly])

theorem TxSame.norm_eq {a b : Tx} (h : TxSame a b) : a.norm = b.norm := by
  obtain ⟨h1, h2, h3, h4, h5, h6⟩ := h
  obtain ⟨a1, a2, a3, a4, a5, a6, a7⟩ := a
  obtain ⟨b1, b2, b3, b4, b5, b6, b7⟩ := b
  simp only at h1 h2 h3 h4 h5 h6
  simp [Tx.norm, h1, h2, h3, h4, h5, h6.norm_eq]

theorem fxCell_same {a b : CurRate} (h : a.Same b) : OptRel Dec.Same a.fxCell b.fxCell := by
  unfold CurRate.fxCell CurRate.isDefault
  rw [h.1]
  split
  · trivial
  · exact h.2

theorem optCell_eq {α} {R : α → α → Prop} {f : α → Str} (hf : ∀ a b, R a b → f a = f b)
    {o o' : Option α} (h : OptRel R o o') : (o.map f).getD [] = (o'.map f).getD [] := by
  rw [OptRel.map_eq hf h]

theorem optRel_bind_fx {cc cc' : Option CurRate} (h : OptRel CurRate.Same cc cc') :
    OptRel Dec.Same (cc.bind (·.fxCell)) (cc'.bind (·.fxCell)) := by
  rcases h.cases with ⟨rfl, rfl⟩ | ⟨a, b, rfl, rfl, hab⟩
  · trivial
  · exact fxCell_same hab

theorem optRel_map_cur {cc cc' : Option CurRate} (h : OptRel CurRate.Same cc cc') :
    cc.map (·.cur) = cc'.map (·.cur) :=
  OptRel.map_eq (fun _ _ hab => hab.1) h

/-- Agreement on everything the table writer looks at. -/
structure CsvCellSame (a b : CsvTx) : Prop where
  cells : ∀ col, cellOf a col = cellOf b col
  txFx : a.txFx.isSome = b.txFx.isSome
  commCurr : a.commCurr.isSome = b.commCurr.isSome
  commFx : a.commFx.isSome = b.commFx.isSome
  sfl : a.sfl.isSome = b.sfl.isSome
  split : a.split.isSome = b.split.isSome
  affiliate : a.affiliate = b.affiliate
  action : a.action = b.action

theorem decCell_eq {p : Nat} {o o' : Option Dec} (h : OptRel Dec.Same o o') :
    (o.map (·.toStringMinPrecision p)).getD [] = (o'.map (·.toStringMinPrecision p)).getD [] :=
  optCell_eq (fun _ _ hab => hab.toStringMinPrecision_eq p) h

theorem CsvCellSame.of_fields {a b : CsvTx} (security : a.security = b.security)
    (tradeDate : a.tradeDate = b.tradeDate) (settleDate : a.settleDate = b.settleDate)
    (action : a.action = b.action) (shares : OptRel Dec.Same a.shares b.shares)
    (aps : OptRel Dec.Same a.aps b.aps) (commission : OptRel Dec.Same a.commission b.commission)
    (txCurr : a.txCurr = b.txCurr) (txFx : OptRel Dec.Same a.txFx b.txFx)
    (commCurr : a.commCurr = b.commCurr) (commFx : OptRel Dec.Same a.commFx b.commFx)
    (memo : a.memo = b.memo) (affiliate : a.affiliate = b.affiliate)
    (sfl : OptRel SflSame a.sfl b.sfl) (split : OptRel SplitSame a.split b.split) : CsvCellSame a b := by
  refine ⟨fun col => ?_, txFx.isSome_eq, by rw [commCurr], commFx.isSome_eq, sfl.isSome_eq, split.isSome_eq,
    affiliate, action⟩
  cases col <;> simp only [cellOf, security, tradeDate, settleDate, action, txCurr, commCurr, memo, affiliate]
  · exact decCell_eq shares
  · exact decCell_eq aps
  · exact decCell_eq commission
  · exact decCell_eq txFx
  · exact decCell_eq commFx
  · exact optCell_eq (fun a b hab => by unfold renderSfl; rw [hab.1.toStringMinPrecision_eq, hab.2]) sfl
  · exact optCell_eq (fun _ _ hab => hab.2) split

theorem TxSame.csv {a b : Tx} (h : TxSame a b) : CsvCellSame a.toCsv b.toCsv := by
  obtain ⟨h1, h2, h3, h4, h5, h6⟩ := h
  obtain ⟨a1, a2, a3, a4, a5, a6, a7⟩ := a
  obtain ⟨b1, b2, b3, b4, b5, b6, b7⟩ := b
  subst h1 h2 h3 h4 h5
  exact h6.elim
    (motive := fun x y =>
      CsvCellSame (Tx.toCsv ⟨a1, a2, a3, x, a5, a6, a7⟩) (Tx.toCsv ⟨a1, a2, a3, y, a5, a6, b7⟩))
    (buy := fun r1 r2 r3 r4 r5 =>
      .of_fields rfl rfl rfl rfl r1 r2 r3 (congrArg some r4.1) (fxCell_same r4) (optRel_map_cur r5)
        (optRel_bind_fx r5) rfl rfl trivial trivial)
    (sell := fun r1 r2 r3 r4 r5 r6 =>
      .of_fields rfl rfl rfl rfl r1 r2 r3 (congrArg some r4.1) (fxCell_same r4) (optRel_map_cur r5)
        (optRel_bind_fx r5) rfl rfl r6 trivial)
    (roc := fun r1 r2 =>
      .of_fields rfl rfl rfl rfl trivial r1 trivial (congrArg some r2.1) (fxCell_same r2) rfl trivial
        rfl rfl trivial trivial)
    (sfla := fun r1 r2 =>
      .of_fields rfl rfl rfl rfl r1 r2 trivial rfl trivial rfl trivial rfl rfl trivial trivial)
    (split := fun r =>
      .of_fields rfl rfl rfl rfl trivial trivial trivial rfl trivial rfl trivial rfl rfl trivial r)

/-- A second copy of `Acb.Forall2` (Lemmas/Rel), kept because the statement of `C07_header_case_pad` names it.
A file that sees both must write `Csv.Forall2`. -/
inductive Forall2 {α β} (R : α → β → Prop) : List α → List β → Prop
  | nil : Forall2 R [] []
  | cons {a b l1 l2} : R a b → Forall2 R l1 l2 → Forall2 R (a :: l1) (b :: l2)

section
variable {α β : Type _} {R : α → β → Prop}

theorem Forall2.map {γ δ} {S : γ → δ → Prop} {f : α → γ} {g : β → δ} {l1 : List α}
    {l2 : List β} (h : Forall2 R l1 l2) (hf : ∀ a b, R a b → S (f a) (g b)) :
    Forall2 S (l1.map f) (l2.map g) := by
  induction h with
  | nil => exact .nil
  | cons hab _ ih => exact .cons (hf _ _ hab) ih

theorem Forall2.map_eq {γ} {f : α → γ} {g : β → γ} {l1 : List α} {l2 : List β}
    (h : Forall2 R l1 l2) (hf : ∀ a b, R a b → f a = g b) : l1.map f = l2.map g := by
  induction h with
  | nil => rfl
  | cons hab _ ih => simp only [List.map_cons, hf _ _ hab, ih]

theorem forall2_map_map {γ} {f : γ → α} {g : γ → β} {l : List γ} (h : ∀ x ∈ l, R (f x) (g x)) :
    Forall2 R (l.map f) (l.map g) := by
  induction l with
  | nil => exact .nil
  | cons x l ih => exact .cons (h x (by simp)) (ih (fun y hy => h y (by simp [hy])))

theorem forall2_nil_left_iff {l : List β} : Forall2 R [] l ↔ l = [] :=
  ⟨fun h => by cases h; rfl, fun h => h ▸ .nil⟩

theorem forall2_cons_left_iff {a : α} {as : List α} {l : List β} :
    Forall2 R (a :: as) l ↔ ∃ b bs, l = b :: bs ∧ R a b ∧ Forall2 R as bs :=
  ⟨fun h => by cases h with | cons hab ht => exact ⟨_, _, rfl, hab, ht⟩,
   fun ⟨_, _, e, hab, ht⟩ => e ▸ .cons hab ht⟩

theorem forall2_append_left_iff {a₁ a₂ : List α} {l : List β} :
    Forall2 R (a₁ ++ a₂) l ↔ ∃ l₁ l₂, l = l₁ ++ l₂ ∧ Forall2 R a₁ l₁ ∧ Forall2 R a₂ l₂ := by
  induction a₁ generalizing l with
  | nil =>
    exact ⟨fun h => ⟨[], l, rfl, .nil, h⟩, fun ⟨_, _, e, h₁, h₂⟩ => by cases h₁; exact e ▸ h₂⟩
  | cons a as ih =>
    simp only [List.cons_append, forall2_cons_left_iff, ih]
    constructor
    · rintro ⟨b, _, rfl, hab, l₁, l₂, rfl, h₁, h₂⟩
      exact ⟨b :: l₁, l₂, rfl, ⟨b, l₁, rfl, hab, h₁⟩, h₂⟩
    · rintro ⟨_, l₂, rfl, ⟨b, l₁, rfl, hab, h₁⟩, h₂⟩
      exact ⟨b, _, rfl, hab, l₁, l₂, rfl, h₁, h₂⟩

theorem Forall2.length_eq {l₁ : List α} {l₂ : List β} (h : Forall2 R l₁ l₂) :
    l₁.length = l₂.length := by
  induction h with
  | nil => rfl
  | cons _ _ ih => simp [ih]

theorem any_congr_forall2 {p : α → Bool} {q : β → Bool} {l1 : List α} {l2 : List β}
    (h : Forall2 R l1 l2) (hp : ∀ a b, R a b → p a = q b) : l1.any p = l2.any q := by
  induction h with
  | nil => rfl
  | cons hab _ ih => simp only [List.any_cons, hp _ _ hab, ih]

end

theorem colInUse_congr {l1 l2 : List CsvTx} (h : Forall2 CsvCellSame l1 l2) (col : Col) :
    colInUse l1 col = colInUse l2 col := by
  cases col <;> simp only [colInUse]
  · exact any_congr_forall2 h (fun a b hab => hab.txFx)
  · exact any_congr_forall2 h (fun a b hab => hab.commCurr)
  · exact any_congr_forall2 h (fun a b hab => hab.commFx)
  · exact any_congr_forall2 h (fun a b hab => hab.sfl)
  · exact any_congr_forall2 h (fun a b hab => hab.split)
  · exact any_congr_forall2 h (fun a b hab => by rw [hab.affiliate, hab.action])

theorem toTable_congr {l1 l2 : List CsvTx} (h : Forall2 CsvCellSame l1 l2) : toTable l1 = toTable l2 := by
  have hH : headerCols l1 = headerCols l2 := by
    unfold headerCols
    apply List.filter_congr
    intro c _
    rw [colInUse_congr h c]
  unfold toTable
  simp only [hH]
  rw [h.map_eq (fun _ _ hab => List.map_congr_left (fun c _ => hab.cells c))]

theorem toCsv_action_split (t : Tx) : (t.toCsv.action == some Act.split) = t.spec.isSplit := by
  obtain ⟨a1, a2, a3, sp, a5, a6, a7⟩ := t
  cases sp <;> rfl

theorem affcol_false {txs : List Tx} (h : colInUse (txs.map Tx.toCsv) .affiliate = false) {t : Tx}
    (ht : t ∈ txs) : t.affiliate.id = defaultId ∧ t.spec.isSplit = false := by
  simp only [colInUse] at h
  rw [List.any_eq_false] at h
  have := h t.toCsv (List.mem_map.2 ⟨t, ht, rfl⟩)
  rw [toCsv_affiliate, toCsv_action_split] at this
  simp only [Bool.or_eq_true, bne_iff_ne, ne_eq, not_or, Decidable.not_not, Bool.not_eq_true] at this
  exact this

theorem mapHeader_length (l : List Str) : (mapHeader l).length = l.length := by simp [mapHeader]

theorem readTxs_eq (t : Table) (i : Nat) : readTxs t i =
    if some Col.settleDate ∈ mapHeader t.header ∧ some Col.legacyDate ∈ mapHeader t.header then
      .error .bothDates
    else readRows (mapHeader t.header) t.rows i >>= txsOfCsv := by
  unfold readTxs parseTable
  by_cases hb : some Col.settleDate ∈ mapHeader t.header ∧ some Col.legacyDate ∈ mapHeader t.header
  · simp [hb]
  · simp only [List.contains_eq_mem, Bool.and_eq_true, decide_eq_true_eq, hb, if_false]
    cases readRows (mapHeader t.header) t.rows i <;> rfl

theorem readTxs_toTable (cs : List CsvTx) (start : Nat) :
    readTxs (toTable cs) start =
      readRows ((headerCols cs).map some) (cs.map (fun t => (headerCols cs).map (cellOf t))) start >>=
        txsOfCsv := by
  have hleg : some Col.legacyDate ∉ (headerCols cs).map some := by
    simpa using legacy_not_in_header cs
  rw [readTxs_eq, if_neg (fun h => hleg (by simpa [toTable, mapHeader_names] using h.2))]
  simp only [toTable, mapHeader_names]

theorem readRows_cons_ok_iff {cols : List (Option Col)} {r : List Str} {rs : List (List Str)} {i : Nat}
    {cs : List CsvTx} : readRows cols (r :: rs) i = .ok cs ↔
      r.length = cols.length ∧ ∃ t ts, csvTxOfValues (fun c => lookupCell c cols r) i = .ok t ∧
        readRows cols rs (i + 1) = .ok ts ∧ cs = t :: ts := by
  simp only [readRows]
  by_cases hlen : r.length = cols.length
  · cases csvTxOfValues (fun c => lookupCell c cols r) i with
    | error e => simp [hlen]
    | ok t => cases readRows cols rs (i + 1) <;> simp [hlen, eq_comm]
  · simp [hlen]

theorem txsOfCsv_cons_ok_iff {c : CsvTx} {cs : List CsvTx} {ts : List Tx} : txsOfCsv (c :: cs) = .ok ts ↔
    ∃ t ts', Tx.ofCsv c = .ok t ∧ txsOfCsv cs = .ok ts' ∧ ts = t :: ts' := by
  simp only [txsOfCsv]
  cases Tx.ofCsv c with
  | error e => simp
  | ok t => cases txsOfCsv cs <;> simp [eq_comm]

theorem readRows_written (txs : List Tx) (hv : ∀ t ∈ txs, t.valid = true)
    (ts : List Tx) (hsub : ∀ t ∈ ts, t ∈ txs) (idx : Nat) :
    ∃ cs, readRows ((headerCols (txs.map Tx.toCsv)).map some)
        (ts.map (fun t => (headerCols (txs.map Tx.toCsv)).map (cellOf t.toCsv))) idx = .ok cs ∧
      ∃ ts', txsOfCsv cs = .ok ts' ∧
        Forall2 TxSame ts' (ts.map (canonTx (colInUse (txs.map Tx.toCsv) .affiliate))) := by
  induction ts generalizing idx with
  | nil => exact ⟨[], rfl, [], rfl, .nil⟩
  | cons t rest ih =>
    have ht : t ∈ txs := hsub t (by simp)
    obtain ⟨c', hc1, hc2⟩ := read_row _ t (List.mem_map.2 ⟨t, ht, rfl⟩) (hv t ht) idx
    obtain ⟨t', ht1, ht2, _⟩ := ofCsv_of_facts (hv t ht) hc2 (fun h => (affcol_false h ht).2)
    obtain ⟨cs, hcs, ts', hts1, hts2⟩ := ih (fun x hx => hsub x (by simp [hx])) (idx + 1)
    exact ⟨c' :: cs, readRows_cons_ok_iff.2 ⟨by simp, c', cs, hc1, hcs, rfl⟩, t' :: ts',
      txsOfCsv_cons_ok_iff.2 ⟨t', ts', ht1, hts1, rfl⟩, .cons ht2 hts2⟩

theorem read_written (txs : List Tx) (hv : ∀ t ∈ txs, t.valid = true) (start : Nat) :
    ∃ txs', readTxs (toTable (txs.map Tx.toCsv)) start = .ok txs' ∧
      Forall2 TxSame txs' (canonTxs txs) := by
  obtain ⟨cs, hcs, ts', hts1, hts2⟩ := readRows_written txs hv txs (fun _ h => h) start
  refine ⟨ts', ?_, hts2⟩
  rw [readTxs_toTable, List.map_map]
  exact hcs ▸ hts1

theorem defaultId_eq : AffData.default.id = defaultId := by decide

theorem toTable_set_affiliate (l : List CsvTx) (a : CsvTx → Option AffData)
    (h1 : colInUse l .affiliate = false)
    (h2 : colInUse (l.map (fun c => { c with affiliate := a c })) .affiliate = false) :
    toTable (l.map (fun c => { c with affiliate := a c })) = toTable l := by
  have hH : headerCols (l.map (fun c => { c with affiliate := a c })) = headerCols l := by
    apply List.filter_congr
    intro col _
    -- only `.affiliate` looks at the field, and there `h1`, `h2` decide; the five other `any`
    -- columns commute with the map
    cases col <;> first | rfl | simp only [h1, h2] | simp only [colInUse, List.any_map, Function.comp_def]
  have hna : Col.affiliate ∉ headerCols l :=
    fun hm => by simpa [Col.optional, h1] using (mem_headerCols.1 hm).2
  simp only [toTable, hH, List.map_map, Table.mk.injEq, true_and]
  refine List.map_congr_left (fun c _ => List.map_congr_left (fun col hcol => ?_))
  -- only the `.affiliate` cell shows the field, and that column is not written
  cases col <;> first | rfl | exact absurd hcol hna

theorem toTable_canon (txs : List Tx) (hm : ∀ t ∈ txs, trim t.memo = t.memo) :
    toTable ((canonTxs txs).map Tx.toCsv) = toTable (txs.map Tx.toCsv) := by
  unfold canonTxs
  cases haff : colInUse (txs.map Tx.toCsv) .affiliate with
  | true =>
    rw [(List.map_congr_left fun t ht => by simp [canonTx, hm t ht] : txs.map (canonTx true) = txs.map id),
      List.map_id]
  | false =>
    have hmap : (txs.map (canonTx false)).map Tx.toCsv =
        (txs.map Tx.toCsv).map (fun c => { c with affiliate := some AffData.default }) := by
      rw [List.map_map, List.map_map]
      refine List.map_congr_left (fun t ht => ?_)
      -- `Tx.toCsv` copies memo and affiliate; the memo is trimmed already
      rw [Function.comp_apply, canonTx, hm t ht]
      rfl
    rw [hmap]
    refine toTable_set_affiliate _ _ haff ?_
    simp only [colInUse, List.any_map, List.any_eq_false, Function.comp_def]
    intro t ht
    have := toCsv_action_split t
    rw [(affcol_false haff ht).2] at this
    simpa [defaultId_eq] using this

end Acb.Csv
