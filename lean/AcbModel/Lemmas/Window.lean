/-
  The window scans, declaratively: on a date-sorted history the `break`s filter on the window; the
  forward total is the end-of-window holding of all affiliates in the split period of the sale;
  shares were "acquired" iff some Buy settles inside the window.
-/
import AcbModel.Lemmas.ScanInv
import AcbModel.Ledger.Spec
namespace Acb
open Spec

/-- On rows sorted by settlement date the forward scan sees exactly the rows settling on or before
    the last day of the window. -/
theorem scanFwd_filter {t : Tracker} (lastDay : Int) :
    ∀ (future : List Tx) (s : Scan), SettleAsc future →
      scanFwd t lastDay s future = scanFwd t lastDay s (future.filter (fun x => decide (x.settle ≤ lastDay))) := by
  intro future s hs
  rw [← takeWhile_eq_filter_of_sorted Tx.settle lastDay hs]
  exact scanFwd_takeWhile t lastDay future s

theorem scanBwd_filter {t : Tracker} (firstDay : Int) :
    ∀ (past : List Tx) (s : Scan), SettleDesc past →
      scanBwd t firstDay s past = scanBwd t firstDay s (past.filter (fun x => decide (firstDay ≤ x.settle))) := by
  intro past s hs
  -- the forward lemma, on `-settle` and `-firstDay`
  have h := takeWhile_eq_filter_of_sorted (fun x : Tx => - x.settle) (- firstDay) (l := past)
    (hs.imp (fun h => by omega))
  have e : (fun x : Tx => decide (- x.settle ≤ - firstDay)) = fun x => decide (firstDay ≤ x.settle) := by
    funext x; simp only [Int.neg_le_neg_iff]
  rw [e] at h
  rw [← h]
  exact scanBwd_takeWhile t firstDay past s

/-- cumulative split factor per affiliate -/
def stepFactor (F : Aff → Rat) (x : Tx) : Aff → Rat :=
  match x.act with
  | .split post pre _ => upd F x.aff (F x.aff * splitFactor post pre)
  | _ => F

def factors (F : Aff → Rat) (p : List Tx) : Aff → Rat := p.foldl stepFactor F

theorem stepFactor_split {F : Aff → Rat} {x : Tx} {post pre : Rat} {io : Bool}
    (hact : x.act = .split post pre io) :
    stepFactor F x = upd F x.aff (F x.aff * splitFactor post pre) := by
  simp only [stepFactor, hact]

theorem stepFactor_of_not_split {F : Aff → Rat} {x : Tx} (h : x.act.isSplit = false) :
    stepFactor F x = F := by
  unfold stepFactor
  cases hact : x.act <;> simp_all [Action.isSplit]

/-- Invariant of the forward scan: the running total is the all-affiliate holding in the split
    period of the sale (each affiliate's balance divided by its cumulative split factor), and the
    per-affiliate adjustment is the reciprocal of that factor. -/
structure HeldInv (U : List Aff) (bs : Books) (F : Aff → Rat) (s : Scan) : Prop where
  total : s.allEop = sumOver U (fun a => (bs a).shares / F a)
  adj : ∀ a, s.adj a = 1 / F a
  pos : ∀ a, 0 < F a

theorem held_add (A b c F : Rat) : A + c * (1 / F) = A - b / F + (b + c) / F := by grind
theorem held_sub (A b c F : Rat) : A - c * (1 / F) = A - b / F + (b - c) / F := by grind
theorem held_split (A b F : Rat) {f : Rat} (hf : f ≠ 0) : A = A - b / F + b * f / (F * f) := by
  grind

theorem fwdStep_held {t : Tracker} {U : List Aff} (hn : U.Nodup) {bs : Books} {F : Aff → Rat}
    {s s' : Scan} {x : Tx} (hi : HeldInv U bs F s) (hv : x.Valid) (hU : x.aff ∈ U)
    (h : fwdStep t s x = .ok s') : HeldInv U (stepBooks bs x) (stepFactor F x) s' := by
  -- only the row's affiliate moves: the sum changes by its term
  have hpt : ∀ G : Aff → Rat, (∀ y, y ≠ x.aff → G y = F y) →
      sumOver U (fun a => (stepBooks bs x a).shares / G a) =
        s.allEop - (bs x.aff).shares / F x.aff + (stepBook (bs x.aff) x.act).shares / G x.aff := by
    intro G hG
    rw [sumOver_point hn hU (f := fun a => (bs a).shares / F a)
      (by intro y hy; simp [stepBooks_of_ne bs hy, hG y hy]), hi.total]
    simp [stepBooks_self]
  -- a row that is no split leaves the factors and the adjustments alone
  have same : stepFactor F x = F → s'.adj = s.adj →
      s'.allEop = s.allEop - (bs x.aff).shares / F x.aff +
        (stepBook (bs x.aff) x.act).shares / F x.aff →
      HeldInv U (stepBooks bs x) (stepFactor F x) s' := fun hF hadj htot =>
    hF.symm ▸ ⟨by rw [hpt F fun _ _ => rfl]; exact htot, hadj ▸ hi.adj, hi.pos⟩
  have notSplit {a : Action} (e : x.act = a) (h : a.isSplit = false) : stepFactor F x = F :=
    stepFactor_of_not_split (e ▸ h)
  unfold Tx.Valid at hv
  cases hact : x.act with
  | buy sh px comm rate crate =>
    rw [fwdStep_buy hact] at h
    cases h
    exact same (notSplit hact rfl) rfl (by simp only [hact, hi.adj, stepBook]; exact held_add ..)
  | sell sh px comm rate crate spec =>
    obtain ⟨-, -, rfl⟩ := fwdStep_sell hact h
    exact same (notSplit hact rfl) rfl (by simp only [hact, hi.adj, stepBook]; exact held_sub ..)
  | split post pre io =>
    rw [hact] at hv
    rw [fwdStep_split hact] at h
    cases h
    have hf : 0 < splitFactor post pre := div_pos' hv.1 hv.2
    rw [stepFactor_split hact]
    refine ⟨?_, fun a => ?_, fun a => ?_⟩
    · rw [hpt _ fun y hy => upd_of_ne _ _ hy, hact]
      simp only [stepBook, upd_same]
      exact held_split _ _ _ (Rat.ne_of_gt hf)
    · by_cases e : a = x.aff <;> simp [upd_apply, e, hi.adj, one_div_div]
    · by_cases e : a = x.aff <;> simp [upd_apply, e, hi.pos, Rat.mul_pos (hi.pos _) hf]
  | _ =>
    rw [fwdStep_of_other (hact ▸ rfl) (hact ▸ rfl) (hact ▸ rfl)] at h
    cases h
    exact same (notSplit hact rfl) rfl (by rw [hact]; exact Rat.sub_add_cancel.symm)

theorem scanFwd_held {t : Tracker} {U : List Aff} (hn : U.Nodup) (lastDay : Int) :
    ∀ (p : List Tx) (s s' : Scan) (bs : Books) (F : Aff → Rat),
    (∀ x ∈ p, x.settle ≤ lastDay ∧ x.Valid ∧ x.aff ∈ U) → HeldInv U bs F s →
    scanFwd t lastDay s p = .ok s' → HeldInv U (after bs p) (factors F p) s' := by
  intro p
  induction p with
  | nil => intro s s' bs F _ hi h; cases h; exact hi
  | cons x rest ih =>
    intro s s' bs F hp hi h
    obtain ⟨⟨hle, hv, hU⟩, hpr⟩ := List.forall_mem_cons.mp hp
    rw [scanFwd_cons, if_neg (by omega)] at h
    cases hs : fwdStep t s x with
    | error e => rw [hs] at h; cases h
    | ok s1 => rw [hs] at h; exact ih s1 s' _ _ hpr (fwdStep_held hn hi hv hU hs) h

/-- The forward scan starts from the books right after the sale, nothing split yet. -/
theorem initScan_held {t : Tracker} {U : List Aff} (hw : TrackerWFOn U t) {bs : Books}
    (hr : TrackerRefines t bs) {sale : Tx} {sold px comm rate : Rat} {crate : Option Rat}
    {spec : Option (Rat × Bool)} (hact : sale.act = .sell sold px comm rate crate spec)
    (hU : sale.aff ∈ U) :
    HeldInv U (stepBooks bs sale) (fun _ => 1) (initScan t sale.aff sold) := by
  refine ⟨?_, fun _ => (rat_div_one 1).symm, fun _ => (by decide : (0 : Rat) < 1)⟩
  show t.latestPostAll - sold = _
  rw [sumOver_point hw.nodup hU (f := fun a => (bs a).shares / 1)
    (by intro y hy; simp [stepBooks_of_ne bs hy])]
  simp only [stepBooks_self, stepBook, hact, rat_div_one]
  rw [← sumOver_congr (fun a _ => refines_bal hr a), ← hw.total, hw.latest, ← refines_bal hr sale.aff]
  grind

/-- `acquired` stays positive, and becomes so exactly when the row is a purchase. -/
theorem acquired_pos_step {P : Prop} {a a' : Rat} {seen : List Tx} {x : Tx} (h0 : 0 ≤ a)
    (h : 0 < a ↔ P ∨ ∃ y ∈ seen, y.act.isBuy = true)
    (hm : if x.act.isBuy = true then a < a' else a' = a) :
    0 < a' ↔ P ∨ ∃ y ∈ seen ++ [x], y.act.isBuy = true := by
  simp only [List.mem_append, List.mem_singleton, or_and_right, exists_or, exists_eq_left, ← or_assoc, ← h]
  by_cases hx : x.act.isBuy = true
  · rw [if_pos hx] at hm
    exact ⟨fun _ => .inr hx, fun _ => Std.lt_of_le_of_lt h0 hm⟩
  · rw [if_neg hx] at hm
    simp [hm, hx]

theorem scanFwd_acquired_pos {t : Tracker} (hb : ∀ a, 0 ≤ t.bal a) {lastDay : Int} {p : List Tx}
    {s s' : Scan} (hp : ∀ x ∈ p, x.settle ≤ lastDay ∧ x.Valid) (hi : ScanInv s)
    (h : scanFwd t lastDay s p = .ok s') :
    0 < s'.acquired ↔ (0 < s.acquired ∨ ∃ x ∈ p, x.act.isBuy = true) := by
  have := scanFwd_ind (t := t) (lastDay := lastDay) (P := Tx.Valid)
    (I := fun seen s1 => ScanInv s1 ∧ (0 < s1.acquired ↔ 0 < s.acquired ∨ ∃ x ∈ seen, x.act.isBuy = true))
    (fun hi hv _ hs =>
      have h := fwdStep_inv hb hi.1 hv hs
      ⟨h.1, acquired_pos_step hi.1.acqNonneg hi.2 h.2⟩)
    [] (fun x hx => (hp x hx).2) ⟨hi, by simp⟩ h
  rw [takeWhile_of_forall (fun x hx => by simpa using (hp x hx).1)] at this
  exact this.2

theorem scanBwd_acquired_pos {t : Tracker} (hb : ∀ a, 0 ≤ t.bal a) {firstDay : Int} {p : List Tx}
    {s : Scan} (hp : ∀ x ∈ p, firstDay ≤ x.settle ∧ x.Valid) (hi : ScanInv s) :
    0 < (scanBwd t firstDay s p).acquired ↔ (0 < s.acquired ∨ ∃ x ∈ p, x.act.isBuy = true) := by
  have := scanBwd_ind (t := t) (firstDay := firstDay) (P := Tx.Valid)
    (I := fun seen s1 => ScanInv s1 ∧ (0 < s1.acquired ↔ 0 < s.acquired ∨ ∃ x ∈ seen, x.act.isBuy = true))
    (fun hi hv _ =>
      have h := bwdStep_inv hb hi.1 hv
      ⟨h.1, acquired_pos_step hi.1.acqNonneg hi.2 h.2⟩)
    p [] s (fun x hx => (hp x hx).2) ⟨hi, by simp⟩
  rw [takeWhile_of_forall (fun x hx => by simpa using (hp x hx).1)] at this
  exact this.2

/-- Shares count as acquired iff a purchase is among the rows the two scans look at. -/
theorem scans_acquired_pos {t : Tracker} (hb : ∀ a, 0 ≤ t.bal a) {seller : Aff} {sold : Rat}
    (h2 : ¬ t.bal seller - sold < 0) {lastDay firstDay : Int} {past future : List Tx}
    (hp : ∀ x ∈ past, firstDay ≤ x.settle ∧ x.Valid) (hf : ∀ x ∈ future, x.settle ≤ lastDay ∧ x.Valid)
    {s1 : Scan} (h : scanFwd t lastDay (initScan t seller sold) future = .ok s1) :
    0 < (scanBwd t firstDay { s1 with adj := fun _ => 1 } past).acquired ↔
      ∃ x, (x ∈ past ∨ x ∈ future) ∧ x.act.isBuy = true := by
  have hi1 := scanFwd_inv hb (fun x hx => (hf x hx).2) (initScan_inv h2) h
  have hF := scanFwd_acquired_pos hb hf (initScan_inv h2) h
  have h0 : ¬ 0 < (initScan t seller sold).acquired := (by decide : ¬ (0 : Rat) < 0)
  rw [scanBwd_acquired_pos hb hp hi1.resetAdj]
  show 0 < s1.acquired ∨ _ ↔ _
  simp only [hF, h0, false_or, or_and_right, exists_or, or_comm]

end Acb
