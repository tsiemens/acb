/-
  The cache from run to run: a run leaves a trustworthy cache behind, later consistent data keep it
  trustworthy, and so every look-up of a history of runs returns what the specification says (C13).
-/
import AcbModel.Lemmas.FxRun
namespace Acb.Fx

theorem getExact_cacheOK (e : Env) (hc : e.cal.OK) (hwf : RemoteWF e) (s : St) (d : Int)
    (h : CacheOK e s.cache) : CacheOK e (getExact e s d).2.cache := by
  rcases getExact_effect e s d with ⟨_, h1⟩ | ⟨_, l, hl, _, h1⟩ <;> rw [h1]
  · exact h
  · split
    · exact h
    · exact cacheOK_upd h (fillUnknown_truthful e hc hwf _ l hl) (hl ▸ rfl)

theorem cacheOK_of_consistent {a b : Env} (h : Consistent a b) {cache : Store} (hc : CacheOK a cache) :
    CacheOK b cache := by
  intro y rows hy
  obtain ⟨ht, ha⟩ := hc y rows hy
  refine ⟨?_, h.stays_available ha⟩
  intro d r hd hl
  rw [← h.cal_eq] at hd
  have htd := h.today_le
  rcases ht d r hd hl with ⟨h1, h2, h3⟩ | ⟨h1, h2⟩
  · exact .inl ⟨h1, (h.past_eq h3).trans h2, by omega⟩
  · exact .inr ⟨h1, h.stays_published h2⟩

theorem cacheOK_after_run (e : Env) (hc : e.cal.OK) (hwf : RemoteWF e) (s : St)
    (h0 : CacheOK e s.cache) (ds : List Int) : CacheOK e (runLookups e s ds).2.cache :=
  runLookups_ind e (fun s => CacheOK e s.cache) (fun s d => getExact_cacheOK e hc hwf s d) s ds h0

theorem GoodHistory.mem {prev : Option Env} {rs : List Run} (hg : GoodHistory prev rs) {r : Run}
    (hr : r ∈ rs) : r.env.cal.OK ∧ RemoteWF r.env := by
  induction rs generalizing prev with
  | nil => cases hr
  | cons r' rs ih =>
    rcases List.mem_cons.1 hr with rfl | hr
    · exact ⟨hg.ok, hg.wf⟩
    · exact ih hg.tail hr

theorem runHistory_spec (cache : Store) (rs : List Run) (prev : Option Env)
    (hg : GoodHistory prev rs)
    (h0 : ∀ r, rs.head? = some r → CacheOK r.env cache) :
    (runHistory cache rs).1.map (fun o => o.1.map forget) =
      rs.map (fun r => r.lookups.map (specRate r.env)) := by
  induction rs generalizing cache prev with
  | nil => rfl
  | cons r rs ih =>
    have hco := h0 r rfl
    have hrun := runLookups_spec r.env hg.ok hg.wf _ (inv_init r.env cache (Or.inr hco)) r.lookups
    have hafter := cacheOK_after_run r.env hg.ok hg.wf (St.init cache) hco r.lookups
    simp only [runHistory, List.map_cons, hrun.2]
    congr 1
    refine ih _ (some r.env) hg.tail fun r' hr' => ?_
    -- the next run finds the cache this run leaves, and its data are consistent with this run's
    cases rs with
    | nil => cases hr'
    | cons r2 rs2 =>
      cases hr'
      exact cacheOK_of_consistent hg.tail.consistent hafter

end Acb.Fx
