/-
  An opening position `SYM:n:c` (`--symbol-base`, C16) against a purchase of `n` shares for `c` by the
  default affiliate, dated before the window of every later sale: its iteration leaves the tracker the
  opening position starts from, and afterwards it is a processed row no scan reaches.
-/
import AcbModel.Lemmas.RunSim
import AcbModel.Lemmas.SecTxs
namespace Acb

/-- The opening purchase that `SYM:n:c` stands for: the default affiliate buys `n` shares for a
    total of `c` (CAD, no commission) on `day`. -/
def openingBuy (dflt : Aff) (n c : Rat) (day : Int) : Tx :=
  { trade := day, settle := day, idx := 0, aff := dflt, act := .buy n (c / n) 0 1 none }

def openingStatus (n c : Rat) : Status := { shares := n, all := n, acb := some c }

/-- if `x` is a sale, its window cannot reach back to `b` -/
def FarBefore (b x : Tx) : Prop :=
  ∀ sh px comm rate crate spec, x.act = .sell sh px comm rate crate spec →
    b.settle < x.settle - Gen.sflWindowBeforeDays

theorem FarBefore.farFor {b x : Tx} (h : FarBefore b x) : FarFor [b] x :=
  fun sh px comm rate crate spec hact =>
    .of_forall fun _ hp => List.mem_singleton.mp hp ▸ h sh px comm rate crate spec hact

theorem stepRow_opening (dflt : Aff) (hd : dflt.registered = false) (n c : Rat) (hn : n ≠ 0) (day : Int) (future : List Tx) :
    stepRow (.empty dflt) (openingBuy dflt n c day) [] future =
      .ok ({ tx := openingBuy dflt n c day, pre := defaultStatus dflt, post := openingStatus n c, gain := none, sfl := none },
           (Tracker.empty dflt).put dflt (openingStatus n c), []) := by
  have hpost : postOf (defaultStatus dflt) (openingBuy dflt n c day).act = openingStatus n c := by
    simp [openingBuy, postOf, openingStatus, defaultStatus, hd, Rat.zero_add, Rat.add_zero,
      Rat.div_mul_cancel hn, Rat.zero_mul, Rat.mul_one]
  have harm : arm (.empty dflt) (openingBuy dflt n c day) (defaultStatus dflt) [] future =
      .ok { post := openingStatus n c } := by
    rw [arm_buy rfl, hpost]
  exact stepRow_fresh (t := .empty dflt) (tx := openingBuy dflt n c day) rfl Rat.le_refl harm hd
    (Rat.zero_add n).symm

theorem deltaList_opening (dflt : Aff) (hd : dflt.registered = false) (n c : Rat) (hn : n ≠ 0) (day : Int)
    (txs : List Tx) (hfar : ∀ x ∈ txs, FarBefore (openingBuy dflt n c day) x) :
    deltaList dflt none (openingBuy dflt n c day :: txs) =
      ({ tx := openingBuy dflt n c day, pre := defaultStatus dflt, post := openingStatus n c,
         gain := none, sfl := none } :: (deltaList dflt (some (openingStatus n c)) txs).1,
       (deltaList dflt (some (openingStatus n c)) txs).2) := by
  have hnew : Tracker.new dflt (some (openingStatus n c)) = .ok ((Tracker.empty dflt).put dflt (openingStatus n c)) :=
    Tracker.new_some_ok_iff.mpr ⟨rfl, hd, rfl⟩
  obtain ⟨ds, e, hr, he⟩ := deltaLoop_runs txs ((Tracker.empty dflt).put dflt (openingStatus n c)) [] []
  -- the same run with the purchase as a processed row: it lies before the window of every sale to come
  obtain ⟨e', hr', he'⟩ := hr.far (P := []) (P' := [openingBuy dflt n c day]) (X := [])
    (fun x hx => ⟨.nil x, (hfar x hx).farFor⟩) (.refl _) (.refl [])
  have hrun : Runs [] (.empty dflt) [] (openingBuy dflt n c day :: txs) (_ :: ds) e' :=
    .step (stepRow_opening dflt hd n c hn day (txs ++ [])) hr'
  rw [deltaList_eq_loop (Tracker.new_none dflt), deltaList_eq_loop hnew, he, hrun.deltaLoop [], he']
  rfl

theorem surroundBack_append {b : PRow} (hb : b.tx.act.isSplit = false) (target : Int) (X : List PRow) :
    surroundBack target (X ++ [b]) = surroundBack target X := by
  induction X with
  | nil => simp [surroundBack, isNonGlobalSplit, hb]
  | cons x xs ih => simp only [List.cons_append, surroundBack, ih]

theorem splitConflict_append {b : PRow} (hb : b.tx.act.isSplit = false) (rest X : List PRow) :
    splitConflict (X ++ [b]) rest = splitConflict X rest := by
  induction rest generalizing X with
  | nil => simp [splitConflict]
  | cons r rest ih =>
    rw [splitConflict, splitConflict, surroundBack_append hb]
    split
    · rfl
    · exact ih (r :: X)

theorem splitConflict_cons_of_not_split {b : PRow} (hb : b.tx.act.isSplit = false) (R : List PRow) :
    splitConflict [] (b :: R) = splitConflict [] R := by
  rw [splitConflict]
  have : isGlobalSplit b = false := by simp [isGlobalSplit, hb]
  simp only [this, Bool.false_and, Bool.false_eq_true, if_false]
  exact splitConflict_append hb R []

/-- With the opening position the default affiliate is added as a holder; with the opening purchase
    it has a row of its own. -/
theorem splitAffs_opening (dflt : Aff) {b : PRow} (hbg : b.glob = false) (hba : b.tx.aff = dflt) (R : List PRow)
    (hk : ∀ x ∈ dflt :: nonGlobalAffs R, ∀ y ∈ dflt :: nonGlobalAffs R, x.key = y.key → x = y) :
    splitAffs dflt [] (b :: R) = splitAffs dflt [dflt] R := by
  have hcons : ∀ a, a ∈ nonGlobalAffs (b :: R) ↔ a = dflt ∨ a ∈ nonGlobalAffs R := by
    intro a
    simp only [mem_nonGlobalAffs, List.mem_cons, or_and_right, exists_or, exists_eq_left, hbg, hba, true_and]
    exact or_congr_left eq_comm
  have hne : nonGlobalAffs (b :: R) ≠ [] := List.ne_nil_of_mem ((hcons dflt).mpr (Or.inl rfl))
  have hmL : ∀ a, a ∈ splitAffs dflt [] (b :: R) ↔ a ∈ dflt :: nonGlobalAffs R := by
    intro a
    rw [mem_splitAffs, hcons]
    simp [hne]
  have hmR : ∀ a, a ∈ splitAffs dflt [dflt] R ↔ a ∈ dflt :: nonGlobalAffs R := by
    intro a
    rw [mem_splitAffs]
    simp [or_comm]
  refine List.Perm.eq_of_pairwise (fun x y hx hy h1 h2 => ?_) (sortAffs_sorted _) (sortAffs_sorted _)
    ((List.perm_ext_iff_of_nodup (splitAffs_nodup _ _ List.nodup_nil _) (splitAffs_nodup _ _ (by simp) _)).mpr
      fun a => ?_)
  · exact hk x ((hmL x).mp hx) y ((hmR y).mp hy) (Nat.le_antisymm h1 h2)
  · rw [hmL, hmR]

end Acb
