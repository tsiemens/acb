/-
  The ledger reads the processed rows only through the tracker's observables and the window scans:
  one iteration from two trackers that agree on every next pre-status, with histories the scans of
  the row cannot tell apart, gives the same delta, generated rows and failure (`stepRow_obs`).
-/
import AcbModel.Lemmas.Loop
import AcbModel.Lemmas.ScanStep
namespace Acb

/-- the trackers agree on everything `delta_for_tx` and the window scans read -/
structure ObsEq (t t' : Tracker) : Prop where
  pre : ∀ a, t'.nextPre a = t.nextPre a
  postAll : t'.latestPostAll = t.latestPostAll

theorem ObsEq.refl (t : Tracker) : ObsEq t t := ⟨fun _ => rfl, rfl⟩

theorem ObsEq.bal {t t' : Tracker} (h : ObsEq t t') (a : Aff) : t'.bal a = t.bal a := by
  rw [← nextPre_shares, ← nextPre_shares, h.pre a]

theorem ObsEq.all {t t' : Tracker} (h : ObsEq t t') : t'.latestAll = t.latestAll := by
  rw [← nextPre_all t' t.latestAff, ← nextPre_all t t.latestAff, h.pre]

theorem ObsEq.acbOf {t t' : Tracker} (h : ObsEq t t') (a : Aff) : t'.acbOf a = t.acbOf a := by
  rw [← nextPre_acb, ← nextPre_acb, h.pre a]

theorem ObsEq.of_obs {t t' : Tracker} (hb : ∀ a, t'.bal a = t.bal a) (hall : t'.latestAll = t.latestAll)
    (ha : ∀ a, t'.acbOf a = t.acbOf a) (hpost : t'.latestPostAll = t.latestPostAll) : ObsEq t t' :=
  ⟨fun a => by rw [nextPre_eq, nextPre_eq, hb, ha, hall], hpost⟩

theorem sflRatio_congr {t t' : Tracker} (h : ObsEq t t') {seller : Aff} {settle : Int} {sold : Rat}
    {p f p' f' : List Tx}
    (hb : ∀ s, scanBwd t (settle - Gen.sflWindowBeforeDays) s p' =
      scanBwd t (settle - Gen.sflWindowBeforeDays) s p)
    (hf : ∀ s, scanFwd t (settle + Gen.sflWindowAfterDays) s f' =
      scanFwd t (settle + Gen.sflWindowAfterDays) s f) :
    sflRatio t' seller settle sold p' f' = sflRatio t seller settle sold p f := by
  simp only [sflRatio_eq, sflInfo_eq, initScan, h.postAll, h.bal, scanFwd_bal h.bal, scanBwd_bal h.bal, hb, hf]

theorem ObsEq.put {t t' : Tracker} (h : ObsEq t t') (a : Aff) (v : Status) : ObsEq (t.put a v) (t'.put a v) :=
  .of_obs (fun x => by rw [put_bal, put_bal, h.bal]) rfl (fun x => by rw [put_acbOf, put_acbOf, h.acbOf])
    (by rw [put_latestPostAll, put_latestPostAll])

theorem ObsEq.setLatest {t t' : Tracker} (h : ObsEq t t') (a : Aff) (v : Status) :
    t'.setLatest a v = (t.setLatest a v).map fun _ => t'.put a v := by
  rw [setLatest_eq, setLatest_eq, h.all, h.bal]
  split
  · split <;> rfl
  · rfl

theorem stepRow_obs {t t' : Tracker} (h : ObsEq t t') {x : Tx} {p f p' f' : List Tx}
    (hr : IsLossSale t x → ∀ sold,
      sflRatio t' x.aff x.settle sold p' f' = sflRatio t x.aff x.settle sold p f) :
    (∀ d t2 inj, stepRow t x p f = .ok (d, t2, inj) →
      ∃ t2', stepRow t' x p' f' = .ok (d, t2', inj) ∧ ObsEq t2 t2') ∧
      ∀ e, stepRow t x p f = .error e → stepRow t' x p' f' = .error e := by
  -- the second run is the first with the other tracker updated
  have e : stepRow t' x p' f' = (stepRow t x p f).map fun r => (r.1, t'.put x.aff r.1.post, r.2.2) := by
    simp only [stepRow, deltaForTx, h.pre, arm_congr hr, h.setLatest]
    cases sanityCheck (t.nextPre x.aff) x.aff with
    | error _ => rfl
    | ok _ =>
      cases arm t x (t.nextPre x.aff) p f with
      | error _ => rfl
      | ok o =>
        dsimp only
        cases t.setLatest x.aff o.post <;> rfl
  rw [e]
  exact ⟨fun d t2 inj hs => ⟨_, by rw [hs]; rfl, stepRow_put hs ▸ h.put _ _⟩, fun _ hs => by rw [hs]; rfl⟩

end Acb
