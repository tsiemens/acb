/-
  Money conservation (C03): the SfLA rows generated for a superficial loss add up to the denied
  amount, provided the buyers are non-registered and hold, at the end of the window, at least the
  shares the loss is applied to (the sale is not flagged "potentially over-applied").
-/
import AcbModel.Lemmas.WfLoop
namespace Acb

/-- rows that may sit in the processed / pending lists of a C03 run -/
def C3Ctx (tx : Tx) : Prop := tx.Valid ∧ tx.aff.registered = false

/-- no user-supplied superficial-loss entry: no `superficial loss` cell on a sale, no SfLA row -/
def NoManual (tx : Tx) : Prop :=
  match tx.act with
  | .sell _ _ _ _ _ (some _) => False
  | .sfla .. => False
  | _ => True

/-- The rows C03 quantifies over. -/
def C3Row (tx : Tx) : Prop := tx.Valid ∧ tx.aff.registered = false ∧ NoManual tx

def txAmount (x : Tx) : Rat := match x.act with | .sfla sh ps => sh * ps | _ => 0
def sumAmounts (l : List Tx) : Rat := (l.map txAmount).sum

theorem sumAmounts_nil : sumAmounts [] = 0 := rfl

theorem sumAmounts_cons (x : Tx) (l : List Tx) : sumAmounts (x :: l) = txAmount x + sumAmounts l := rfl

theorem sum_sortByKey (f : Aff × Rat × Rat → Rat) (l : List (Aff × Rat × Rat)) :
    ((sortByKey l).map f).sum = (l.map f).sum := Costs.sumOver_perm (sortByKey_perm l) f

/-- The amounts of the generated rows: `(-c)·(n/d)` per portion of a non-registered buyer (a zero
    amount generates no row). -/
theorem sumAmounts_adjust {tx : Tx} {c : Rat} (hc : c < 0) {l : List (Aff × Rat × Rat)}
    (hl : ∀ p ∈ l, p.1.registered = false ∧ 0 ≤ p.2.1 ∧ 0 < p.2.2) :
    sumAmounts (l.filterMap (adjustRow tx c)) = (l.map fun p => p.2.1 * ((-c) / p.2.2)).sum := by
  induction l with
  | nil => exact sumAmounts_nil
  | cons p ps ih =>
    obtain ⟨hreg, hn, hd⟩ := hl p (by simp)
    have ih := ih fun q hq => hl q (by simp [hq])
    have hge : 0 ≤ (-c) * (p.2.1 / p.2.2) :=
      Rat.mul_nonneg (neg_nonneg_iff.mpr (Rat.le_of_lt hc)) (div_nonneg' hn hd)
    have e : (-c) * (p.2.1 / p.2.2) = p.2.1 * ((-c) / p.2.2) := by
      rw [Rat.div_def, Rat.div_def, ← Rat.mul_assoc, Rat.mul_comm (-c), Rat.mul_assoc]
    by_cases hpos : 0 < (-c) * (p.2.1 / p.2.2)
    · simp only [List.filterMap_cons, adjustRow, hreg, hpos, Bool.false_eq_true, not_false_eq_true,
        and_self, if_true, sumAmounts_cons, List.map_cons, List.sum_cons, txAmount]
      rw [ih, Rat.one_mul, e]
    · simp only [List.filterMap_cons, adjustRow, hpos, and_false, if_false, List.map_cons,
        List.sum_cons, ih, ← e]
      rw [Rat.le_antisymm (Rat.not_lt.mp hpos) hge, Rat.zero_add]

/-- With no manual superficial-loss entry, non-registered buyers and a sale not flagged
    "potentially over-applied", the SfLA rows generated for the sale total exactly `-info.loss`. -/
theorem deltaSflInfo_balanced {t : Tracker} (hb : ∀ a, 0 ≤ t.bal a) {tx : Tx} {sold : Rat} (hs : 0 < sold)
    {loss : Rat} {past future : List Tx} (hp : ∀ x ∈ past, C3Ctx x) (hf : ∀ x ∈ future, C3Ctx x)
    {info : SflInfo} {adj : List Tx}
    (h : deltaSflInfo t tx sold none loss past future = .ok (some (info, adj))) :
    info.over = true ∨ sumAmounts adj = - info.loss := by
  rw [deltaSflInfo_eq] at h
  obtain ⟨m, hr, h⟩ := Except.bind_eq_ok_iff.mp h
  rw [dsiOf_none, Except.ok.injEq] at h
  obtain ⟨r, rfl, h⟩ := Option.bind_eq_some_iff.mp h
  obtain ⟨i, hsi, rfl⟩ := sflRatio_some hr
  have hio := sflInfo_sliOk hb (fun x hx => (hp x hx).1) (fun x hx => (hf x hx).1) hsi
  have hro := (calcRatio_ok hs hio).2
  split at h
  case isFalse => cases h
  rename_i hneg
  cases h
  by_cases hov : buyersTotal i < (ratioOf sold i).num
  · exact .inl (by simpa [ratioOf] using hov)
  · right
    have htot : 0 < buyersTotal i := Std.lt_of_lt_of_le hro.numPos (Rat.not_lt.mp hov)
    have hbuyers := sflInfo_buyers (fun a => a.registered = false) (fun x hx => (hp x hx).2)
      (fun x hx => (hf x hx).2) hsi
    rw [sumAmounts_adjust (by simpa using hneg) fun p hp => by
        obtain ⟨-, a, ha, rfl⟩ := mem_ratioOf_portions.mp (mem_sortByKey.mp hp)
        exact ⟨hbuyers a ha, (hro.portions _ (mem_sortByKey.mp hp)).1, htot⟩,
      sum_sortByKey]
    simp only [ratioOf, htot, if_true, List.map_map, Function.comp_def]
    -- Σ activeₐ · (−c / tot) = tot · (−c / tot) = −c
    show sumOver i.buyers (fun a => (i.active a).getD 0 * (_ / buyersTotal i)) = _
    rw [sumOver_mul_right]
    show buyersTotal i * _ = _
    rw [Rat.mul_comm, Rat.div_mul_cancel (Rat.ne_of_gt htot)]

end Acb
