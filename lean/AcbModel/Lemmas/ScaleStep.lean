import AcbModel.Lemmas.ScaleSfl
namespace Acb

def sflOptScaled (f : Rat) : Option SflInfo → Option SflInfo → Prop
  | none, none => True
  | some a, some b => sflInfoScaled f a b
  | _, _ => False

theorem sflOptScaled_iff {f : Rat} {a b : Option SflInfo} : sflOptScaled f a b ↔ OptRel (sflInfoScaled f) a b := by
  cases a <;> cases b <;> exact Iff.rfl

theorem sflOptScaled.loss_eq {f : Rat} {a b : Option SflInfo} (h : sflOptScaled f a b) :
    b.map (·.loss) = a.map (·.loss) := by
  rcases (sflOptScaled_iff.mp h).cases with ⟨rfl, rfl⟩ | ⟨i, i', rfl, rfl, hi⟩
  · rfl
  · exact congrArg some hi.loss

structure ArmScaled (f : Rat) (o o' : ArmOut) : Prop where
  post : o'.post = scaleStatus f o.post
  gain : o'.gain = o.gain
  sfl : sflOptScaled f o.sfl o'.sfl
  inj : o'.inj = o.inj

/-- later splits must allow fractional results (C15's hypothesis) -/
def NoIntOnly (tx : Tx) : Prop := ∀ post pre io, tx.act = .split post pre io → io = false

structure DeltaScaled (f : Rat) (d d' : Delta) : Prop where
  tx : RowRel f d.tx d'.tx
  pre : d'.pre = scaleStatus f d.pre
  post : d'.post = scaleStatus f d.post
  gain : d'.gain = d.gain
  sfl : sflOptScaled f d.sfl d'.sfl

variable {f : Rat} (hf : 0 < f)
include hf

theorem perShareAcb_scaled (pre : Status) :
    perShareAcb (scaleStatus f pre) = (perShareAcb pre).map (· / f) := by
  simp only [perShareAcb_eq, scaleStatus, Rat.mul_pos_iff_of_pos_right hf]
  cases pre.acb with
  | none => rfl
  | some a =>
    split <;> grind

theorem sanityCheck_scaled (pre : Status) (a : Aff) : sanityCheck (scaleStatus f pre) a = sanityCheck pre a := by
  simp only [sanityCheck, scaleStatus, Rat.mul_lt_mul_right hf]
  rfl

theorem armBuy_scaled (pre : Status) (sh px comm rate : Rat) (crate : Option Rat) :
    ArmScaled f (armBuy pre sh px comm rate crate) (armBuy (scaleStatus f pre) (sh * f) (px / f) comm rate crate) := by
  refine ⟨?_, rfl, trivial, rfl⟩
  simp only [armBuy, scaleStatus, restate_amount (Rat.ne_of_gt hf), Rat.add_mul]

theorem armRoc_scaled (reg : Bool) (pre : Status) (ps rate : Rat) :
    ExceptRel (ArmScaled f) (armRoc reg pre ps rate) (armRoc reg (scaleStatus f pre) (ps / f) rate) := by
  unfold armRoc
  simp only [scaleStatus, restate_amount (Rat.ne_of_gt hf)]
  cases pre.acb with
  | none => exact exceptRel_ite (fun _ => rfl) fun _ => rfl
  | some old =>
    exact exceptRel_ite (fun _ => rfl) fun _ => exceptRel_ite (fun _ => rfl) fun _ => ⟨rfl, rfl, trivial, rfl⟩

omit hf in
/-- an SfLA row, restated (`sh·f` shares at `ps/f`) or identical: the amount is the same -/
theorem armSfla_scaled (reg : Bool) (pre : Status) {sh ps sh' ps' : Rat} (hamt : sh' * ps' = sh * ps) :
    ExceptRel (ArmScaled f) (armSfla reg pre sh ps) (armSfla reg (scaleStatus f pre) sh' ps') := by
  unfold armSfla
  simp only [scaleStatus, hamt]
  cases pre.acb with
  | none => exact exceptRel_ite (fun _ => rfl) fun _ => rfl
  | some old => exact exceptRel_ite (fun _ => rfl) fun _ => ⟨rfl, rfl, trivial, rfl⟩

theorem armSplit_scaled (pre : Status) (post pre' : Rat) :
    ExceptRel (ArmScaled f) (armSplit pre post pre' false) (armSplit (scaleStatus f pre) post pre' false) := by
  have e : pre.all * f + (pre.shares * f * splitFactor post pre' - pre.shares * f) =
      (pre.all + (pre.shares * splitFactor post pre' - pre.shares)) * f := by grind
  unfold armSplit
  simp only [scaleStatus, e, Rat.mul_neg_iff_of_pos_right hf, Bool.false_eq_true, false_and, and_false, if_false]
  exact exceptRel_ite (fun _ => rfl) fun _ => ⟨by simp only [scaleStatus, Status.mk.injEq]; grind, rfl, trivial, rfl⟩

variable {t t' : Tracker} (ht : TrackerScaled f t t')
include ht

theorem armSell_scaled (tx : Tx) (pre : Status) (sh px comm rate : Rat) (crate : Option Rat)
    (spec : Option (Rat × Bool)) {past past' future future' : List Tx}
    (hpast : PastScaled f t t' past past') (hfut : Forall2 (RowRel f) future future') :
    ExceptRel (ArmScaled f) (armSell t tx pre sh px comm rate crate spec past future)
      (armSell t' (restateTx f tx) (scaleStatus f pre) (sh * f) (px / f) comm rate crate spec past' future') := by
  have e1 : (scaleStatus f pre).shares = pre.shares * f := rfl
  have e2 : (scaleStatus f pre).all = pre.all * f := rfl
  unfold armSell
  simp only [e1, e2, scale_sub, Rat.mul_neg_iff_of_pos_right hf, perShareAcb_scaled hf]
  refine exceptRel_ite (fun _ => rfl) fun _ => exceptRel_ite (fun _ => rfl) fun _ => ?_
  cases perShareAcb pre with
  | none => exact exceptRel_ite (fun _ => rfl) fun _ => ⟨rfl, rfl, trivial, rfl⟩
  | some aps =>
    simp only [Option.map_some, restate_amount (Rat.ne_of_gt hf), restate_amount' (Rat.ne_of_gt hf)]
    refine exceptRel_ite (fun _ => ?_) fun _ => exceptRel_ite (fun _ => rfl) fun _ => ⟨rfl, rfl, trivial, rfl⟩
    refine (deltaSflInfo_scaled hf ht tx sh spec (px * sh * rate - comm * commRate rate crate - aps * sh)
      hpast hfut).elim (fun e => rfl) fun o o' ho => ?_
    rcases ho.cases with ⟨rfl, rfl⟩ | ⟨⟨i, adj⟩, ⟨i', adj'⟩, rfl, rfl, hi, hadj⟩
    · exact ⟨rfl, rfl, trivial, rfl⟩
    · exact ⟨rfl, by rw [hi.loss], hi, hadj⟩

theorem arm_scaled {x x' : Tx} (hx : RowRel f x x') (hio : NoIntOnly x) (pre : Status)
    {past past' future future' : List Tx}
    (hpast : PastScaled f t t' past past') (hfut : Forall2 (RowRel f) future future') :
    ExceptRel (ArmScaled f) (arm t x pre past future) (arm t' x' (scaleStatus f pre) past' future') := by
  rcases hx with rfl | ⟨⟨sh, ps, hs⟩, rfl⟩
  · unfold arm
    simp only [restateTx_act, restateTx_aff]
    cases hact : x.act with
    | buy sh px comm rate crate => exact armBuy_scaled hf pre sh px comm rate crate
    | sell sh px comm rate crate spec => exact armSell_scaled hf ht x pre sh px comm rate crate spec hpast hfut
    | roc ps rate => exact armRoc_scaled hf x.aff.registered pre ps rate
    | sfla sh ps => exact armSfla_scaled x.aff.registered pre (restate_amount' (Rat.ne_of_gt hf) sh ps)
    | split po pr io =>
      cases hio po pr io hact
      exact armSplit_scaled hf pre po pr
  · simp only [arm, hs]
    exact armSfla_scaled _ pre rfl

theorem setLatest_scaled (a : Aff) (v : Status) :
    ExceptRel (TrackerScaled f) (t.setLatest a v) (t'.setLatest a (scaleStatus f v)) := by
  have e : (scaleStatus f v).all = (scaleStatus f v).shares + t'.latestAll - t'.bal a ↔
      v.all = v.shares + t.latestAll - t.bal a := by
    have : v.shares * f + t.latestAll * f - t.bal a * f = (v.shares + t.latestAll - t.bal a) * f := by grind
    simp only [scaleStatus, ht.all, ht.bal, this]
    exact scale_inj (Rat.ne_of_gt hf)
  rw [setLatest_eq, setLatest_eq]
  simp only [e, show (scaleStatus f v).acb = v.acb from rfl]
  refine exceptRel_ite (fun _ => exceptRel_ite (fun _ => ?_) fun _ => rfl) fun _ => rfl
  refine .of_obs (fun x => ?_) rfl (fun x => ?_) (by simp only [put_latestPostAll]; rfl)
  · simp only [put_bal]
    split
    · rfl
    · exact ht.bal x
  · simp only [put_acbOf]
    split
    · rfl
    · exact ht.acbOf x

theorem stepRow_scaled {x x' : Tx} (hx : RowRel f x x') (hio : NoIntOnly x)
    {past past' w w' : List Tx} (hpast : PastScaled f t t' past past') (hw : Forall2 (RowRel f) w w') :
    ExceptRel (fun r r' => DeltaScaled f r.1 r'.1 ∧ TrackerScaled f r.2.1 r'.2.1 ∧ r'.2.2 = r.2.2)
      (stepRow t x past w) (stepRow t' x' past' w') := by
  simp only [stepRow, deltaForTx, hx.aff, ht.pre x.aff, sanityCheck_scaled hf]
  cases sanityCheck (t.nextPre x.aff) x.aff with
  | error e => rfl
  | ok u =>
    refine (arm_scaled hf ht hx hio (t.nextPre x.aff) hpast hw).elim (fun e => rfl) fun o o' ho => ?_
    simp only [ho.post]
    exact (setLatest_scaled hf ht x.aff o.post).elim (fun e => rfl) fun t2 t2' ht2 =>
      ⟨⟨hx, rfl, rfl, ho.gain, ho.sfl⟩, ht2, ho.inj⟩

end Acb
