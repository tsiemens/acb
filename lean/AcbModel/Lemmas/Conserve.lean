/-
  Money conservation (C03): along deltas that conform to the average-cost rules,
  Ψ = gains − proceeds + costs − returns of capital − (cost base held − opening cost base) changes by
  each row's "imbalance": a sale adds the loss it denies, an SfLA row subtracts its amount.
-/
import AcbModel.Lemmas.Loop
import AcbModel.Lemmas.Sum
namespace Acb
open Spec

/-- total cost base held by the affiliates of `U` -/
def totalAcb (U : List Aff) (bs : Books) : Rat := sumOver U (fun a => ((bs a).acb).getD 0)

structure Flows where
  gains : Rat := 0
  proceeds : Rat := 0
  costs : Rat := 0
  roc : Rat := 0

/-- Cash flows of one row, read off the INPUT row (and the shares held, for a return of capital);
    the gain is the one the ledger reports. -/
def flowStep (bs : Books) (f : Flows) (d : Delta) : Flows :=
  let f := { f with gains := f.gains + d.gain.getD 0 }
  match d.tx.act with
  | .buy sh px comm rate crate => { f with costs := f.costs + (px * sh * rate + comm * commRate rate crate) }
  | .sell sh px comm rate crate _ => { f with proceeds := f.proceeds + (px * sh * rate - comm * commRate rate crate) }
  | .roc ps rate => { f with roc := f.roc + ps * (bs d.tx.aff).shares * rate }
  | _ => f

def flows : Books → Flows → List Delta → Flows
  | _, f, [] => f
  | bs, f, d :: ds => flows (stepBooks bs d.tx) (flowStep bs f d) ds

def imbalance (d : Delta) : Rat :=
  match d.tx.act with
  | .sell .. => - sflLoss d.sfl
  | .sfla sh ps => - (sh * ps)
  | _ => 0

def imbalances (ds : List Delta) : Rat := (ds.map imbalance).sum

theorem imbalances_nil : imbalances [] = 0 := rfl

theorem imbalances_cons (d : Delta) (ds : List Delta) : imbalances (d :: ds) = imbalance d + imbalances ds := rfl

theorem imbalances_append (l1 l2 : List Delta) : imbalances (l1 ++ l2) = imbalances l1 + imbalances l2 := by
  simp [imbalances, List.sum_append]

def psi (U : List Aff) (bs0 bs : Books) (f : Flows) : Rat :=
  f.gains - f.proceeds + f.costs - f.roc - (totalAcb U bs - totalAcb U bs0)

theorem totalAcb_step {U : List Aff} (hn : U.Nodup) {bs : Books} {tx : Tx} (ha : tx.aff ∈ U) :
    totalAcb U (stepBooks bs tx) =
      totalAcb U bs - ((bs tx.aff).acb).getD 0 + ((stepBook (bs tx.aff) tx.act).acb).getD 0 := by
  unfold totalAcb
  have : (fun a => ((stepBooks bs tx a).acb).getD 0) =
      (fun a => if a = tx.aff then ((stepBook (bs tx.aff) tx.act).acb).getD 0 else ((bs a).acb).getD 0) := by
    funext a; rw [stepBooks_apply]; split <;> rfl
  rw [this, sumOver_upd hn ha]

/-- One conforming row of a non-registered affiliate changes Ψ by the row's imbalance. -/
theorem psi_step {U : List Aff} (hn : U.Nodup) {bs0 bs : Books} {f : Flows} {d : Delta}
    (ha : d.tx.aff ∈ U) (hacb : ∃ c, (bs d.tx.aff).acb = some c)
    (hgain : d.gain = (gain0 (bs d.tx.aff) d.tx.act).map (fun g => g - sflLoss d.sfl)) :
    psi U bs0 (stepBooks bs d.tx) (flowStep bs f d) = psi U bs0 bs f + imbalance d := by
  obtain ⟨c, hc⟩ := hacb
  unfold psi
  rw [totalAcb_step hn ha]
  unfold flowStep imbalance
  cases hact : d.tx.act
  -- each arm books a flow equal to its change of the cost base (a sale removes `c * sh / shares`)
  all_goals
    simp only [hact, gain0, hc, Option.map_none, Option.map_some] at hgain
    simp [hgain, stepBook, hc]
    grind

/-- every affiliate of `U` has a cost base (none is registered) -/
def AcbSome (U : List Aff) (bs : Books) : Prop := ∀ a ∈ U, ∃ c, (bs a).acb = some c

theorem AcbSome.step {U : List Aff} {bs : Books} (h : AcbSome U bs) (tx : Tx) : AcbSome U (stepBooks bs tx) := by
  intro a ha
  rw [← Option.isSome_iff_exists, stepBooks_acb_isSome, Option.isSome_iff_exists]
  exact h a ha

/-- A sale row that the ledger accepted sold out of a positive balance. -/
def SellFromPositive (bs : Books) (d : Delta) : Prop :=
  ∀ sh px comm rate crate spec, d.tx.act = .sell sh px comm rate crate spec → (bs d.tx.aff).shares ≠ 0

/-- Along any conforming list of deltas of non-registered affiliates, Ψ moves
    by the sum of the rows' imbalances. -/
theorem psi_after {U : List Aff} (hn : U.Nodup) {bs0 bs : Books} {ds : List Delta} (f : Flows)
    (hc : Conforms bs ds) (hU : ∀ d ∈ ds, d.tx.aff ∈ U) (hs : AcbSome U bs) :
    psi U bs0 (after bs (ds.map (·.tx))) (flows bs f ds) = psi U bs0 bs f + imbalances ds := by
  induction ds generalizing bs f with
  | nil => exact (Rat.add_zero _).symm
  | cons d ds ih =>
    have ha : d.tx.aff ∈ U := hU d (by simp)
    obtain ⟨hd, hc⟩ := Conforms_cons.mp hc
    rw [List.map_cons, after_cons, flows, imbalances_cons,
      ih (flowStep bs f d) hc (fun x hx => hU x (by simp [hx])) (hs.step d.tx), psi_step hn ha (hs _ ha) hd.gain]
    grind

theorem psi_flows {U : List Aff} (hn : U.Nodup) {bs0 : Books} :
    ∀ (ds : List Delta) (bs : Books) (f : Flows),
    Conforms bs ds → ListP (fun b d => SellFromPositive b d) bs ds →
    (∀ d ∈ ds, d.tx.aff ∈ U) → AcbSome U bs →
    psi U bs0 (after bs (ds.map (·.tx))) (flows bs f ds) = psi U bs0 bs f + imbalances ds :=
  fun _ _ f hc _ hU hs => psi_after hn f hc hU hs

end Acb
