namespace Acb

theorem nodup_eraseDups {α : Type} [BEq α] [LawfulBEq α] (l : List α) : l.eraseDups.Nodup := by
  induction h : l.length using Nat.strongRecOn generalizing l with
  | _ n ih =>
    cases l with
    | nil => simp
    | cons a as =>
      rw [List.eraseDups_cons]
      refine List.nodup_cons.mpr ⟨fun hmem => by simpa using List.mem_eraseDups.mp hmem, ?_⟩
      have := List.length_filter_le (fun b => !b == a) as
      exact ih _ (by simp only [List.length_cons] at h; omega) _ rfl

theorem length_eq_iff_subset {α : Type} {l r : List α} (hl : l.Nodup) (hr : r.Nodup) (h : l ⊆ r) :
    l.length = r.length ↔ r ⊆ l := by
  constructor
  · intro hlen p hp
    false_or_by_contra
    rename_i hnot
    have := (List.nodup_cons.mpr ⟨hnot, hl⟩).length_le_of_subset (List.cons_subset.mpr ⟨hp, h⟩)
    rw [List.length_cons] at this
    omega
  · exact fun h' => Nat.le_antisymm (hl.length_le_of_subset h) (hr.length_le_of_subset h')

theorem perm_cons_eraseIdx {α : Type} {l : List α} {i : Nat} (hi : i < l.length) : l.Perm (l[i] :: l.eraseIdx i) := by
  have h : l = l.take i ++ l[i] :: l.drop (i + 1) := by
    rw [← List.drop_eq_getElem_cons hi, List.take_append_drop]
  rw [List.eraseIdx_eq_take_drop_succ]
  exact (List.Perm.of_eq h).trans List.perm_middle

theorem idxOf_sublist_increasing {α : Type} [BEq α] [LawfulBEq α] {m pool : List α} (hs : m.Sublist pool)
    (hn : pool.Nodup) : (m.map (fun t => pool.idxOf t)).Pairwise (· < ·) := by
  rw [List.pairwise_map]
  refine List.Pairwise.sublist hs (List.pairwise_iff_getElem.mpr fun i j hi hj hij => ?_)
  rw [hn.idxOf_getElem i hi, hn.idxOf_getElem j hj]
  exact hij

theorem filter_or_eq_append {α : Type} {p q : α → Prop} [DecidablePred p] [DecidablePred q] {L : List α}
    (h : L.Pairwise (fun a b => q a → ¬ p b)) (hpq : ∀ a ∈ L, q a → ¬ p a) :
    L.filter (fun a => decide (p a) || decide (q a)) =
      L.filter (fun a => decide (p a)) ++ L.filter (fun a => decide (q a)) := by
  induction L with
  | nil => rfl
  | cons x xs ih =>
    have hx := List.pairwise_cons.mp h
    have ih := ih hx.2 (fun a ha => hpq a (by simp [ha]))
    by_cases hq : q x
    · have hnil : xs.filter (fun a => decide (p a)) = [] :=
        List.filter_eq_nil_iff.mpr (fun a ha => by simpa using hx.1 a ha hq)
      simp [hpq x (by simp) hq, hq, ih, hnil]
    · by_cases hp : p x <;> simp [hp, hq, ih]

theorem sorted_unique {β} {lt : β → β → Prop} (asymm : ∀ a b, lt a b → lt b a → False)
    {l1 l2 : List β} (h1 : l1.Pairwise lt) (h2 : l2.Pairwise lt) (hm : ∀ x, x ∈ l1 ↔ x ∈ l2) : l1 = l2 :=
  have nd : ∀ {l : List β}, l.Pairwise lt → l.Nodup :=
    fun h => h.imp (fun {a b} (hab : lt a b) (e : a = b) => asymm b b (e ▸ hab) (e ▸ hab))
  List.Perm.eq_of_pairwise (fun a b _ _ h h' => (asymm a b h h').elim) h1 h2
    ((List.perm_ext_iff_of_nodup (nd h1) (nd h2)).2 hm)

/-! The two ways an insertion into a sorted list goes: in front of a larger head
    (`pairwise_cons_cons`), or past a smaller head into the tail (`pairwise_cons_insert`). -/
theorem pairwise_cons_cons {β} {R : β → β → Prop} {a b : β} {r : List β} (hs : (b :: r).Pairwise R)
    (hab : R a b) (trans : ∀ x, R b x → R a x) : (a :: b :: r).Pairwise R :=
  List.pairwise_cons.2 ⟨fun x hx => (List.mem_cons.1 hx).elim (· ▸ hab)
    (fun h => trans x ((List.pairwise_cons.1 hs).1 x h)), hs⟩

theorem pairwise_cons_insert {β} {R : β → β → Prop} {a b : β} {r l' : List β} (hs : (b :: r).Pairwise R)
    (hl' : l'.Pairwise R) (hmem : ∀ x, x ∈ l' → x = a ∨ x ∈ r) (hba : R b a) : (b :: l').Pairwise R :=
  List.pairwise_cons.2 ⟨fun x hx => (hmem x hx).elim (· ▸ hba) ((List.pairwise_cons.1 hs).1 x), hl'⟩

theorem takeWhile_of_forall {α : Type} {p : α → Bool} {l : List α} (h : ∀ x ∈ l, p x = true) : l.takeWhile p = l := by
  have := List.takeWhile_append_of_pos (l₂ := []) h
  simpa using this

theorem takeWhile_eq_filter_of_sorted {α : Type} (k : α → Int) (b : Int) {l : List α}
    (h : l.Pairwise (fun x y => k x ≤ k y)) :
    l.takeWhile (fun x => decide (k x ≤ b)) = l.filter (fun x => decide (k x ≤ b)) := by
  induction l with
  | nil => rfl
  | cons x rest ih =>
    have hx := List.pairwise_cons.mp h
    by_cases hb : k x ≤ b
    · rw [List.takeWhile_cons_of_pos (by simpa using hb), List.filter_cons_of_pos (by simpa using hb), ih hx.2]
    · rw [List.takeWhile_cons_of_neg (by simpa using hb), List.filter_cons_of_neg (by simpa using hb)]
      symm
      apply List.filter_eq_nil_iff.mpr
      intro y hy
      have := hx.1 y hy
      simp only [decide_eq_true_eq]
      omega

/-- If `l1 ++ l2` is cut into `pre ++ suf`, all of `l1` satisfies `P` and `suf` is empty or starts
    with an element that does not, the cut lies in `l2`. -/
theorem append_cut {α : Type} {P : α → Prop} {l1 l2 pre suf : List α} (h : pre ++ suf = l1 ++ l2)
    (h1 : ∀ x ∈ l1, P x) (hs : suf = [] ∨ ∃ x xs, suf = x :: xs ∧ ¬ P x) :
    ∃ a, pre = l1 ++ a ∧ l2 = a ++ suf := by
  induction l1 generalizing pre with
  | nil => exact ⟨pre, rfl, h.symm⟩
  | cons y l1 ih =>
    cases pre with
    | nil =>
      rcases hs with rfl | ⟨x, xs, rfl, hx⟩
      · cases h
      · obtain ⟨rfl, -⟩ := List.cons.inj h
        exact absurd (h1 x (by simp)) hx
    | cons p pre =>
      obtain ⟨rfl, h'⟩ := List.cons.inj h
      obtain ⟨a, rfl, rfl⟩ := ih h' (fun x hx => h1 x (by simp [hx]))
      exact ⟨a, rfl, rfl⟩

theorem pairwise_le_getLast {α : Type} (k : α → Int) {l : List α} (hne : l ≠ [])
    (hs : l.Pairwise (fun x y => k x ≤ k y)) : ∀ x ∈ l, k x ≤ k (l.getLast hne) := by
  intro x hx
  obtain ⟨l', e, rfl⟩ : ∃ l' e, l = l' ++ [e] := ⟨l.dropLast, l.getLast hne, (List.dropLast_concat_getLast hne).symm⟩
  rw [List.getLast_concat]
  simp only [List.mem_append, List.mem_singleton] at hx
  rcases hx with hx | rfl
  · exact (List.pairwise_append.mp hs).2.2 x hx e (by simp)
  · exact Int.le_refl _

theorem getElem?_append_of_eq_some {α : Type} {l : List α} {i : Nat} {y : α} (h : l[i]? = some y)
    (l' : List α) : (l ++ l')[i]? = some y := by
  rw [List.getElem?_append_left (List.getElem?_eq_some_iff.mp h).1, h]

theorem dropWhile_eq_self_of_head {α} (p : α → Bool) (l : List α)
    (h : ∀ x, l.head? = some x → p x = false) : l.dropWhile p = l := by
  cases l with
  | nil => rfl
  | cons a r => simp [h a rfl]

theorem ite_some_or {α : Type} {p q r : Prop} [Decidable p] [Decidable q] [Decidable r] (a : α)
    (h : r ↔ p ∨ q) :
    (if p then some a else none).or (if q then some a else none) = if r then some a else none := by
  by_cases p <;> by_cases q <;> simp [*]

theorem toOption_eq_of_ok_iff {ε α} {x y : Except ε α} (h : ∀ a, x = .ok a ↔ y = .ok a) :
    x.toOption = y.toOption := by
  cases x with
  | ok a => rw [(h a).1 rfl]
  | error e =>
    cases y with
    | ok b => exact absurd ((h b).2 rfl) (by simp)
    | error e' => rfl

theorem Except.bind_eq_ok_iff {ε α β : Type} {x : Except ε α} {f : α → Except ε β} {b : β} :
    x.bind f = .ok b ↔ ∃ a, x = .ok a ∧ f a = .ok b := by
  cases x <;> simp [Except.bind]

theorem Except.map_eq_ok_iff {ε α β : Type} {x : Except ε α} {f : α → β} {b : β} :
    x.map f = .ok b ↔ ∃ a, x = .ok a ∧ f a = b := by
  cases x <;> simp [Except.map]

theorem eq_ok_of_toOption {ε α} {x : Except ε α} {v : α} (h : x.toOption = some v) : x = .ok v := by
  cases x <;> simp_all [Except.toOption]

theorem Except.map_eq_error_iff {ε α β : Type} {x : Except ε α} {f : α → β} {e : ε} :
    x.map f = .error e ↔ x = .error e := by
  cases x <;> simp [Except.map]

theorem Except.bind_eq_error_iff {ε α β : Type} {x : Except ε α} {f : α → Except ε β} {e : ε} :
    x.bind f = .error e ↔ x = .error e ∨ ∃ a, x = .ok a ∧ f a = .error e := by
  cases x <;> simp [Except.bind]

end Acb
