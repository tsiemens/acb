/-
  The row loop of `sheet_to_txs` (C18): a row appends its trade, steps the FX tracker and may add a
  row error; what this gives for a whole run, by induction on the rows.
-/
import AcbModel.Lemmas.QtRow
namespace Acb.Qt

/-- What a row does to the FX tracker, and the row error it gives rise to, if any: that of a cell
    that cannot be read, or the one the tracker reports. -/
def rowStep (fx : Tracker) (n : Nat) (rd : Reader) : Tracker × Option ErrKind :=
  match parseRow rd n with
  | .error e => (fx, some e)
  | .ok (.fxt r) => addFxtRow fx r
  | .ok (.income t) => (addIncome fx t, none)
  | .ok (.trade t) => if t.currency = "CAD" then (fx, none) else addImplicit fx t
  | .ok .skip => (fx, none)

theorem rowStep_of_error {fx : Tracker} {n : Nat} {rd : Reader} {e : ErrKind} (h : parseRow rd n = .error e) :
    rowStep fx n rd = (fx, some e) := by
  rw [rowStep, h]

theorem stepRow_eq (st : St) (n : Nat) (rd : Reader) :
    stepRow st n rd =
      { trades := st.trades ++ (tradeOf n rd).toList
        fx := (rowStep st.fx n rd).1
        errors := st.errors ++ ((rowStep st.fx n rd).2.map (n, ·)).toList } := by
  unfold stepRow rowStep tradeOf
  cases parseRow rd n with
  | error e => simp [St.addErr]
  | ok act =>
    cases act with
    | skip => simp [applyAct]
    | income t => simp [applyAct]
    | fxt r => cases h : (addFxtRow st.fx r).2 <;> simp [applyAct, St.addErr, h]
    | trade t =>
      by_cases hc : t.currency = "CAD"
      · simp [applyAct, hc]
      · cases h : (addImplicit st.fx t).2 <;> simp [applyAct, St.addErr, h, hc]

theorem stepRow_fx (st : St) (n : Nat) (rd : Reader) : (stepRow st n rd).fx = (rowStep st.fx n rd).1 := by
  rw [stepRow_eq]

theorem stepRow_errors_prefix (st : St) (n : Nat) (rd : Reader) : st.errors <+: (stepRow st n rd).errors := by
  rw [stepRow_eq]
  exact List.prefix_append _ _

theorem stepRow_no_error {st : St} {n : Nat} {rd : Reader} (h : (stepRow st n rd).errors = st.errors) :
    (rowStep st.fx n rd).2 = none := by
  rw [stepRow_eq] at h
  simpa using h

theorem rowStep_booked (p : Account → Bool) {fx : Tracker} {n : Nat} {rd : Reader}
    (h : (rowStep fx n rd).2 = none) :
    (rowStep fx n rd).1.booked p = fx.booked p + rowCashOf p n rd := by
  unfold rowStep rowCashOf at *
  cases hp : parseRow rd n with
  | error e => simp [hp] at h
  | ok act =>
    rw [hp] at h
    cases act with
    | skip => exact (Rat.add_zero _).symm
    | income t => exact Tracker.booked_snoc p fx t
    | fxt r => exact addFxtRow_booked p h
    | trade t =>
      dsimp only [rowCash] at h ⊢
      by_cases hcad : t.currency = "CAD"
      · rw [if_pos hcad, if_neg (fun h => cad_ne_usd (hcad ▸ h.1)), Rat.add_zero]
      · rw [if_neg hcad] at h ⊢
        exact addImplicit_booked p h

theorem rowStep_mem {fx : Tracker} {n : Nat} {rd : Reader} {t : BTx} (h : t ∈ (rowStep fx n rd).1.txs) :
    t ∈ fx.txs ∨ (FxRow t ∧ (t.shares ≠ 0 ∨ incomeOf n rd = some t)) := by
  unfold rowStep incomeOf at *
  cases hp : parseRow rd n with
  | error e =>
    rw [hp] at h
    exact Or.inl h
  | ok act =>
    rw [hp] at h
    cases act with
    | skip => exact Or.inl h
    | income f =>
      rcases List.mem_append.mp h with h | h
      · exact Or.inl h
      · cases List.mem_singleton.mp h
        exact Or.inr ⟨(parseRow_income hp).1, Or.inr rfl⟩
    | fxt r => exact (addFxtRow_mem h).imp_right fun ⟨h1, h2⟩ => ⟨h1, Or.inl h2⟩
    | trade tr =>
      dsimp only at h
      split at h
      · exact Or.inl h
      · exact (addImplicit_mem h).imp_right fun ⟨h1, h2⟩ => ⟨h1, Or.inl h2⟩

theorem runRows_trades (st : St) (n : Nat) (rds : List Reader) :
    (runRows st n rds).trades = st.trades ++ tradesFrom n rds := by
  induction rds generalizing st n with
  | nil => simp [runRows, tradesFrom]
  | cons rd rest ih => simp [runRows, tradesFrom, ih, stepRow_eq]

theorem convertReaders_trades (rds : List Reader) : (convertReaders rds).trades = tradesFrom 2 rds := by
  simp [convertReaders, finish, runRows_trades]

theorem tradeOf_eq_some {n : Nat} {rd : Reader} {t : BTx} :
    tradeOf n rd = some t ↔ parseRow rd n = .ok (.trade t) := by
  unfold tradeOf
  cases parseRow rd n with
  | error e => simp
  | ok act => cases act <;> simp

theorem mem_tradesFrom {rds : List Reader} {n : Nat} {t : BTx} :
    t ∈ tradesFrom n rds ↔
      ∃ (k : Nat) (rd : Reader), rds[k]? = some rd ∧ parseRow rd (n + k) = .ok (.trade t) := by
  induction rds generalizing n with
  | nil => simp [tradesFrom]
  | cons rd rest ih =>
    simp only [tradesFrom, List.mem_append, Option.mem_toList, tradeOf_eq_some, ih]
    constructor
    · rintro (h | ⟨k, rd', hk, hp⟩)
      · exact ⟨0, rd, rfl, h⟩
      · exact ⟨k + 1, rd', hk, by rwa [Nat.add_assoc, Nat.add_comm 1] at hp⟩
    · rintro ⟨_ | k, rd', hk, hp⟩
      · cases hk
        exact Or.inl hp
      · exact Or.inr ⟨k, rd', hk, by rwa [Nat.add_assoc, Nat.add_comm 1]⟩

theorem runRows_errors_prefix (st : St) (n : Nat) (rds : List Reader) :
    st.errors <+: (runRows st n rds).errors := by
  induction rds generalizing st n with
  | nil => exact List.prefix_rfl
  | cons rd rest ih => exact (stepRow_errors_prefix st n rd).trans (ih _ _)

theorem runRows_no_error_split {rd : Reader} {rest : List Reader} {st : St} {n : Nat}
    (h : (runRows st n (rd :: rest)).errors = st.errors) :
    (stepRow st n rd).errors = st.errors ∧
    (runRows (stepRow st n rd) (n + 1) rest).errors = (stepRow st n rd).errors := by
  have h2 := runRows_errors_prefix (stepRow st n rd) (n + 1) rest
  have h1 : st.errors = (stepRow st n rd).errors :=
    (stepRow_errors_prefix st n rd).eq_of_length_le (h ▸ h2.length_le)
  exact ⟨h1.symm, h.trans h1⟩

theorem runRows_error_mem (st : St) (n : Nat) {rds : List Reader} {k : Nat} {rd : Reader} {e : ErrKind}
    (hk : rds[k]? = some rd) (hp : parseRow rd (n + k) = .error e) :
    (n + k, e) ∈ (runRows st n rds).errors := by
  induction rds generalizing st n k with
  | nil => simp at hk
  | cons r rest ih =>
    cases k with
    | zero =>
      cases hk
      apply (runRows_errors_prefix _ _ rest).subset
      rw [stepRow_eq, rowStep_of_error (n := n) hp]
      simp
    | succ k =>
      rw [← Nat.add_assoc, Nat.add_right_comm] at hp ⊢
      exact ih _ _ hk hp

theorem convertReaders_error_mem {rds : List Reader} {k : Nat} {rd : Reader} {e : ErrKind}
    (hk : rds[k]? = some rd) (hp : parseRow rd (2 + k) = .error e) :
    (2 + k, e) ∈ (convertReaders rds).errors := by
  have := runRows_error_mem {} 2 hk hp
  unfold convertReaders finish
  split <;> simp [this]

theorem convertReaders_trade_or_error {rds : List Reader} {k : Nat} {rd : Reader} {a : String}
    (hk : rds[k]? = some rd) (hA : rd.getStr "Action" = .ok a) (hT : (tradeSide (upper a)).isSome = true) :
    (∃ t, tradeOf (2 + k) rd = some t ∧ t ∈ (convertReaders rds).trades ∧ t.row = 2 + k) ∨
    ∃ e, (2 + k, e) ∈ (convertReaders rds).errors := by
  rcases parseRow_trade_action (n := 2 + k) hA hT with ⟨t, ht⟩ | ⟨e, he⟩
  · refine Or.inl ⟨t, tradeOf_eq_some.mpr ht, ?_, (parseRow_trade ht).row⟩
    rw [convertReaders_trades]
    exact mem_tradesFrom.mpr ⟨k, rd, hk, ht⟩
  · exact Or.inr ⟨e, convertReaders_error_mem hk he⟩

theorem finish_errors_nil {st : St} (h : (finish st).errors = []) :
    st.errors = [] ∧ st.fx.adjacent = none := by
  unfold finish at h
  split at h
  · simp at h
  · exact ⟨h, ‹_›⟩

theorem runRows_cash (p : Account → Bool) (st : St) (n : Nat) (rds : List Reader)
    (h : (runRows st n rds).errors = st.errors) :
    (runRows st n rds).fx.booked p = st.fx.booked p + cashFrom p n rds := by
  induction rds generalizing st n with
  | nil => exact (Rat.add_zero _).symm
  | cons rd rest ih =>
    obtain ⟨h1, h2⟩ := runRows_no_error_split h
    rw [runRows, ih _ _ h2, stepRow_fx, rowStep_booked p (stepRow_no_error h1), cashFrom, Rat.add_assoc]

theorem runRows_fx_mem {st : St} {n : Nat} {rds : List Reader} {t : BTx}
    (h : t ∈ (runRows st n rds).fx.txs) :
    t ∈ st.fx.txs ∨ (FxRow t ∧ (t.shares ≠ 0 ∨ t ∈ incomesFrom n rds)) := by
  induction rds generalizing st n with
  | nil => exact Or.inl h
  | cons rd rest ih =>
    rcases ih h with h | ⟨hf, h⟩
    · rw [stepRow_fx] at h
      rcases rowStep_mem h with h | ⟨hf, h⟩
      · exact Or.inl h
      · exact Or.inr ⟨hf, h.imp_right fun h => by simp [incomesFrom, h]⟩
    · exact Or.inr ⟨hf, h.imp_right fun h => by simp [incomesFrom, h]⟩

theorem convertReaders_fx_mem {rds : List Reader} {t : BTx} (h : t ∈ (convertReaders rds).fx) :
    FxRow t ∧ (t.shares ≠ 0 ∨ t ∈ incomesFrom 2 rds) :=
  (runRows_fx_mem h).resolve_left (by simp)

end Acb.Qt
