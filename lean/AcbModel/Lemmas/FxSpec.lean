/-
  Declarative reading of `specRate` (used by the C12 corollaries).
-/
import AcbModel.Fx.Valid
namespace Acb.Fx

theorem forall_window (P : Int → Prop) {D : Int} {n : Nat} (h : ∀ k : Nat, k ≤ n → P (D - k)) {d : Int}
    (h1 : D - n ≤ d) (h2 : d ≤ D) : P d := by
  have := h (D - d).toNat (by omega)
  rwa [show D - ((D - d).toNat : Int) = d by omega] at this

/-- "`r` is the Bank of Canada rate to use for trade date `D`": it is a published rate, of the trade
    date itself or of one of the seven preceding days, no later day up to the trade date has a
    published rate, and a preceding day's rate is only used for a trade date in the past. -/
def IsRelevantRate (e : Env) (D : Int) (r : DailyRate) : Prop :=
  r.date ≤ D ∧ D ≤ r.date + 7 ∧ pubOf e.cal e.remote r.date = some r.rate ∧
  (∀ d', r.date < d' → d' ≤ D → pubOf e.cal e.remote d' = none) ∧
  (r.date = D ∨ D < e.today)

section
variable {e : Env} {D : Int} {r : DailyRate} (h : IsRelevantRate e D r)
include h

theorem IsRelevantRate.date_le : r.date ≤ D := h.1

theorem IsRelevantRate.within_seven : D ≤ r.date + 7 := h.2.1

theorem IsRelevantRate.published : pubOf e.cal e.remote r.date = some r.rate := h.2.2.1

theorem IsRelevantRate.none_after {d' : Int} (h1 : r.date < d') (h2 : d' ≤ D) : pubOf e.cal e.remote d' = none :=
  h.2.2.2.1 d' h1 h2

theorem IsRelevantRate.same_day_or_past : r.date = D ∨ D < e.today := h.2.2.2.2

end

theorem specRate_eq_specBack (e : Env) (D : Int) : specRate e D = specBack e 8 (D + 1) := by
  conv =>
    rhs
    rw [specBack, Int.add_sub_cancel]
  rfl

theorem specExact_some_iff {e : Env} {d : Int} {r : DailyRate} :
    specExact e d = .ok (some r) ↔
      availOf e.cal e.remote d = true ∧ r.date = d ∧ pubOf e.cal e.remote d = some r.rate := by
  obtain ⟨rd, rr⟩ := r
  unfold specExact
  cases availOf e.cal e.remote d with
  | false => simp
  | true =>
    cases pubOf e.cal e.remote d with
    | none => by_cases h : e.today ≤ d <;> simp [h]
    | some x => simp [eq_comm]

theorem specExact_none_iff {e : Env} {d : Int} :
    specExact e d = .ok none ↔
      availOf e.cal e.remote d = true ∧ pubOf e.cal e.remote d = none ∧ d < e.today := by
  unfold specExact
  cases availOf e.cal e.remote d <;> cases pubOf e.cal e.remote d <;> simp

theorem specBack_succ_ok (e : Env) (n : Nat) (d : Int) (r : DailyRate) :
    specBack e (n + 1) d = .ok r ↔
      specExact e (d - 1) = .ok (some r) ∨ specExact e (d - 1) = .ok none ∧ specBack e n (d - 1) = .ok r := by
  rw [specBack]
  rcases specExact e (d - 1) with _ | _ | r' <;> simp

theorem specBack_sound {e : Env} {n : Nat} {d : Int} {r : DailyRate} (h : specBack e n d = .ok r) :
    r.date < d ∧ d ≤ r.date + n ∧ pubOf e.cal e.remote r.date = some r.rate ∧
    ∀ d', r.date < d' → d' < d → pubOf e.cal e.remote d' = none ∧ d' < e.today := by
  induction n generalizing d with
  | zero => cases h
  | succ n ih =>
    rcases (specBack_succ_ok e n d r).1 h with h | ⟨h0, h⟩
    · obtain ⟨_, h1, h2⟩ := specExact_some_iff.1 h
      exact ⟨by omega, by omega, h1 ▸ h2, fun d' _ _ => by omega⟩
    · obtain ⟨h1, h2, h3, h4⟩ := ih h
      obtain ⟨_, h5⟩ := specExact_none_iff.1 h0
      refine ⟨by omega, by omega, h3, fun d' ha hb => ?_⟩
      by_cases hd : d' = d - 1
      · exact hd ▸ h5
      · exact h4 d' ha (by omega)

theorem specBack_complete {e : Env} {n : Nat} {d : Int} {r : DailyRate}
    (hav : ∀ d', d - n ≤ d' → d' < d → availOf e.cal e.remote d' = true)
    (h1 : r.date < d) (h2 : d ≤ r.date + n) (h3 : pubOf e.cal e.remote r.date = some r.rate)
    (h4 : ∀ d', r.date < d' → d' < d → pubOf e.cal e.remote d' = none ∧ d' < e.today) :
    specBack e n d = .ok r := by
  induction n generalizing d with
  | zero => omega
  | succ n ih =>
    have ha := hav (d - 1) (by omega) (by omega)
    rw [specBack_succ_ok]
    by_cases hd : r.date = d - 1
    · exact .inl (specExact_some_iff.2 ⟨ha, hd, hd ▸ h3⟩)
    · exact .inr ⟨specExact_none_iff.2 ⟨ha, h4 _ (by omega) (by omega)⟩,
        ih (fun d' ha' hb => hav d' (by omega) (by omega)) (by omega) (by omega)
          (fun d' ha' hb => h4 d' ha' (by omega))⟩

theorem specRate_sound {e : Env} {D : Int} {r : DailyRate} (h : specRate e D = .ok r) :
    IsRelevantRate e D r := by
  obtain ⟨h1, h2, h3, h4⟩ := specBack_sound (specRate_eq_specBack e D ▸ h)
  refine ⟨by omega, by omega, h3, fun d' ha hb => (h4 d' ha (by omega)).1, ?_⟩
  by_cases hd : r.date = D
  · exact .inl hd
  · exact .inr (h4 D (by omega) (by omega)).2

theorem specRate_complete {e : Env} {D : Int} {r : DailyRate}
    (hav : ∀ k : Nat, k ≤ 7 → availOf e.cal e.remote (D - k) = true)
    (h : IsRelevantRate e D r) : specRate e D = .ok r := by
  have h1 := h.date_le
  have h2 := h.within_seven
  have h5 := h.same_day_or_past
  rw [specRate_eq_specBack]
  exact specBack_complete (fun d' ha hb => forall_window (availOf e.cal e.remote · = true) hav (by omega) (by omega))
    (by omega) (by omega) h.published (fun d' ha hb => ⟨h.none_after ha (by omega), by omega⟩)

end Acb.Fx
