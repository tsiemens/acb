/-
  Invariants of the superficial-loss window scan, and their consequence: none of the panic
  sites of superficial_loss.rs / get_delta_superficial_loss_info is reachable.
-/
import AcbModel.Lemmas.Wf
import AcbModel.Lemmas.ScanStep
namespace Acb

structure ScanInv (s : Scan) : Prop where
  adjPos : ∀ a, 0 < s.adj a
  acqNonneg : 0 ≤ s.acquired
  buyersActive : ∀ a, a ∈ s.buyers → (s.active a).isSome = true
  acqBuyers : 0 < s.acquired → s.buyers ≠ []
  activeNonneg : ∀ a v, s.active a = some v → 0 ≤ v

theorem ScanInv.setAdj {s : Scan} (hi : ScanInv s) (a : Aff) {v : Rat} (hv : 0 < v) :
    ScanInv { s with adj := upd s.adj a v } := by
  refine ⟨fun x => ?_, hi.acqNonneg, hi.buyersActive, hi.acqBuyers, hi.activeNonneg⟩
  simp only [upd_apply]
  split
  · exact hv
  · exact hi.adjPos x

theorem ScanInv.setActive {s : Scan} (hi : ScanInv s) (a : Aff) {v : Rat} (hv : 0 ≤ v) (e : Rat) :
    ScanInv { s with active := upd s.active a (some v), allEop := e } := by
  refine ⟨hi.adjPos, hi.acqNonneg, fun x hx => ?_, hi.acqBuyers, fun x w hw => ?_⟩
  · simp only [upd_apply]
    split
    · rfl
    · exact hi.buyersActive x hx
  · simp only [upd_apply] at hw
    split at hw
    · cases hw; exact hv
    · exact hi.activeNonneg x w hw

theorem ScanInv.addBuyer {s : Scan} (hi : ScanInv s) {a : Aff} (ha : (s.active a).isSome = true)
    {q : Rat} (hq : 0 ≤ q) :
    ScanInv { s with acquired := s.acquired + q, buyers := insertAff s.buyers a } :=
  ⟨hi.adjPos, Rat.add_nonneg hi.acqNonneg hq,
    fun x hx => (mem_insertAff.mp hx).elim (hi.buyersActive x) (· ▸ ha),
    fun _ => insertAff_ne_nil _ _, hi.activeNonneg⟩

/-- A valid row keeps the invariant; only a purchase moves `acquired`, and it moves it up. -/
theorem fwdStep_inv {t : Tracker} (hb : ∀ a, 0 ≤ t.bal a) {s s' : Scan} {x : Tx} (hi : ScanInv s)
    (hv : x.Valid) (h : fwdStep t s x = .ok s') :
    ScanInv s' ∧ if x.act.isBuy = true then s.acquired < s'.acquired else s'.acquired = s.acquired := by
  have hold : 0 ≤ (s.active x.aff).getD (t.bal x.aff) := by
    cases hsa : s.active x.aff with
    | none => exact hb x.aff
    | some w => exact hi.activeNonneg _ _ hsa
  unfold Tx.Valid at hv
  cases hact : x.act with
  | buy sh px comm rate crate =>
    rw [fwdStep_buy hact] at h
    cases h
    have hq : 0 < sh * s.adj x.aff := Rat.mul_pos (hact ▸ hv).1 (hi.adjPos _)
    exact ⟨(hi.setActive x.aff (Rat.add_nonneg hold (Rat.le_of_lt hq)) _).addBuyer (by simp)
      (Rat.le_of_lt hq), lt_add_of_pos' _ hq⟩
  | sell sh px comm rate crate spec =>
    obtain ⟨-, h2, rfl⟩ := fwdStep_sell hact h
    exact ⟨hi.setActive x.aff (Rat.not_lt.mp h2) _, rfl⟩
  | split post pre io =>
    rw [hact] at hv
    rw [fwdStep_split hact] at h
    cases h
    exact ⟨hi.setAdj x.aff (div_pos' (hi.adjPos _) (div_pos' hv.1 hv.2)), rfl⟩
  | _ =>
    rw [fwdStep_of_other (hact ▸ rfl) (hact ▸ rfl) (hact ▸ rfl)] at h
    cases h
    exact ⟨hi, rfl⟩

theorem bwdStep_inv {t : Tracker} (hb : ∀ a, 0 ≤ t.bal a) {s : Scan} {x : Tx} (hi : ScanInv s)
    (hv : x.Valid) :
    ScanInv (bwdStep t s x) ∧
      if x.act.isBuy = true then s.acquired < (bwdStep t s x).acquired
      else (bwdStep t s x).acquired = s.acquired := by
  unfold Tx.Valid at hv
  cases hact : x.act with
  | buy sh px comm rate crate =>
    rw [bwdStep_buy hact]
    have hq : 0 < sh * s.adj x.aff := Rat.mul_pos (hact ▸ hv).1 (hi.adjPos _)
    refine ⟨?_, lt_add_of_pos' _ hq⟩
    cases hsa : s.active x.aff with
    | none =>
      exact (hi.setActive x.aff (hb x.aff) _).addBuyer (by simp) (Rat.le_of_lt hq)
    | some w =>
      exact hi.addBuyer (by simp [hsa]) (Rat.le_of_lt hq)
  | split post pre io =>
    rw [hact] at hv
    rw [bwdStep_split hact]
    exact ⟨hi.setAdj x.aff (Rat.mul_pos (hi.adjPos _) (div_pos' hv.1 hv.2)), rfl⟩
  | _ =>
    rw [bwdStep_of_other (hact ▸ rfl) (hact ▸ rfl)]
    exact ⟨hi, rfl⟩

theorem initScan_inv {t : Tracker} {seller : Aff} {sold : Rat} (h : ¬ t.bal seller - sold < 0) :
    ScanInv (initScan t seller sold) := by
  refine ⟨fun _ => (by decide : (0 : Rat) < 1), Rat.le_refl, nofun,
    fun h => absurd h (by decide : ¬ (0 : Rat) < 0), fun a v hav => ?_⟩
  simp only [initScan, upd_apply] at hav
  split at hav <;> cases hav
  exact Rat.not_lt.mp h

theorem ScanInv.resetAdj {s : Scan} (hi : ScanInv s) : ScanInv { s with adj := fun _ => 1 } :=
  ⟨fun _ => (by decide : (0 : Rat) < 1), hi.acqNonneg, hi.buyersActive, hi.acqBuyers, hi.activeNonneg⟩

theorem scanFwd_inv {t : Tracker} (hb : ∀ a, 0 ≤ t.bal a) {lastDay : Int} {future : List Tx}
    {s s' : Scan} (hv : ∀ x ∈ future, x.Valid) (hi : ScanInv s)
    (h : scanFwd t lastDay s future = .ok s') : ScanInv s' :=
  scanFwd_ind (I := fun _ s => ScanInv s) (fun hi hv _ h => (fwdStep_inv hb hi hv h).1) [] hv hi h

theorem scanBwd_inv {t : Tracker} (hb : ∀ a, 0 ≤ t.bal a) (firstDay : Int) {past : List Tx} {s : Scan}
    (hv : ∀ x ∈ past, x.Valid) (hi : ScanInv s) : ScanInv (scanBwd t firstDay s past) :=
  scanBwd_ind (I := fun _ s => ScanInv s) (fun hi hv _ => (bwdStep_inv hb hi hv).1) past [] s hv hi

theorem scanFwd_err {t : Tracker} {lastDay : Int} {future : List Tx} {s : Scan} {f : Failure}
    (h : scanFwd t lastDay s future = .error f) : UserErr f := by
  induction future generalizing s with
  | nil => cases h
  | cons x rest ih =>
    rw [scanFwd_cons] at h
    split at h; · cases h
    cases hs : fwdStep t s x with
    | ok s' => rw [hs] at h; exact ih h
    | error f' =>
      rw [hs] at h; cases h
      rcases fwdStep_err hs with rfl | rfl <;> exact .of_err rfl

/-- What a `MaybeSuperficialLossInfo::Superficial` result of the scans guarantees. -/
structure SliOk (i : SliInfo) : Prop where
  allPos : 0 < i.allEop
  acqPos : 0 < i.acquired
  buyersNe : i.buyers ≠ []
  buyersActive : ∀ a, a ∈ i.buyers → (i.active a).isSome = true
  activeNonneg : ∀ a v, i.active a = some v → 0 ≤ v

theorem sflInfo_err {t : Tracker} {seller : Aff} {settle : Int} {sold : Rat} {past future : List Tx}
    {f : Failure} (h : sflInfo t seller settle sold past future = .error f) : UserErr f := by
  rw [sflInfo_eq] at h
  split at h
  · cases h; exact .of_err rfl
  split at h
  · cases h; exact .of_err rfl
  exact scanFwd_err (Except.map_eq_error_iff.mp h)

theorem sflInfo_sliOk {t : Tracker} (hb : ∀ a, 0 ≤ t.bal a) {seller : Aff} {settle : Int} {sold : Rat}
    {past future : List Tx} (hvp : ∀ x ∈ past, x.Valid) (hvf : ∀ x ∈ future, x.Valid) {i : SliInfo}
    (h : sflInfo t seller settle sold past future = .ok (some i)) : SliOk i := by
  obtain ⟨-, h2, s1, hs1, hi⟩ := sflInfo_some h
  obtain ⟨hA, hB, rfl⟩ := sliOf_eq_some_iff.mp hi
  have hi2 := scanBwd_inv hb (settle - Gen.sflWindowBeforeDays) hvp
    (scanFwd_inv hb hvf (initScan_inv h2) hs1).resetAdj
  exact ⟨hA, hB, hi2.acqBuyers hB, hi2.buyersActive, hi2.activeNonneg⟩

theorem portionsOf_ok_iff {active : Aff → Option Rat} {tot : Rat} {l : List Aff}
    {r : List (Aff × Rat × Rat)} :
    portionsOf active tot l = .ok r ↔
      (∀ a ∈ l, (active a).isSome = true) ∧ r = l.map fun a => (a, (active a).getD 0, tot) := by
  induction l generalizing r with
  | nil => exact ⟨fun h => ⟨nofun, by cases h; rfl⟩, fun h => by rw [h.2]; rfl⟩
  | cons a as ih =>
    unfold portionsOf
    cases ha : active a with
    | none => simp [ha]
    | some v =>
      cases hr : portionsOf active tot as with
      | error f =>
        simp only [reduceCtorEq, false_iff, not_and]
        intro h _
        have := (ih (r := _)).mpr ⟨fun b hb => h b (by simp [hb]), rfl⟩
        rw [hr] at this; cases this
      | ok r0 =>
        obtain ⟨h1, rfl⟩ := ih.mp hr
        simp only [Except.ok.injEq, List.mem_cons, forall_eq_or_imp, ha, Option.isSome_some,
          true_and, List.map_cons, Option.getD_some]
        exact ⟨fun h => ⟨h1, h.symm⟩, fun h => h.2.symm⟩

/-- What `calc_superficial_loss_ratio` returns, in closed form. -/
def ratioOf (sold : Rat) (i : SliInfo) : SflRatio :=
  { num := min3 sold i.acquired i.allEop, den := sold,
    portions := if 0 < buyersTotal i then
      i.buyers.map fun a => (a, (i.active a).getD 0, buyersTotal i) else [],
    over := decide (buyersTotal i < min3 sold i.acquired i.allEop),
    overMargin := buyersTotal i - min3 sold i.acquired i.allEop }

theorem mem_ratioOf_portions {sold : Rat} {i : SliInfo} {p : Aff × Rat × Rat} :
    p ∈ (ratioOf sold i).portions ↔
      0 < buyersTotal i ∧ ∃ a ∈ i.buyers, p = (a, (i.active a).getD 0, buyersTotal i) := by
  unfold ratioOf
  by_cases h : 0 < buyersTotal i <;> simp [h, eq_comm]

theorem calcRatio_ok_iff {sold : Rat} {i : SliInfo} {r : SflRatio} :
    calcRatio sold i = .ok r ↔
      i.buyers ≠ [] ∧ (0 < buyersTotal i → ∀ a ∈ i.buyers, (i.active a).isSome = true) ∧
      r = ratioOf sold i := by
  unfold calcRatio ratioOf
  simp only [List.length_eq_zero_iff]
  by_cases hne : i.buyers = []
  · simp [hne]
  by_cases htot : 0 < buyersTotal i
  · simp only [hne, htot, if_true, if_false, forall_const]
    cases hp : portionsOf i.active (buyersTotal i) i.buyers with
    | error f =>
      refine ⟨nofun, fun h => ?_⟩
      have := (portionsOf_ok_iff (tot := buyersTotal i)).mpr ⟨h.2.1, rfl⟩
      rw [hp] at this; cases this
    | ok ps =>
      obtain ⟨h1, rfl⟩ := portionsOf_ok_iff.mp hp
      exact ⟨fun h => ⟨hne, h1, by cases h; rfl⟩, fun h => by rw [h.2.2]⟩
  · simp only [hne, htot, if_false, false_imp_iff, true_and]
    exact ⟨fun h => ⟨hne, by cases h; rfl⟩, fun h => by rw [h.2]⟩

/-- What a computed ratio guarantees. -/
structure RatioOk (sold : Rat) (r : SflRatio) : Prop where
  numPos : 0 < r.num
  den : r.den = sold
  portions : ∀ p ∈ r.portions, 0 ≤ p.2.1 ∧ 0 < p.2.2

theorem calcRatio_ok {sold : Rat} (hs : 0 < sold) {i : SliInfo} (hi : SliOk i) :
    calcRatio sold i = .ok (ratioOf sold i) ∧ RatioOk sold (ratioOf sold i) := by
  refine ⟨calcRatio_ok_iff.mpr ⟨hi.buyersNe, fun _ => hi.buyersActive, rfl⟩,
    rmin_pos (rmin_pos hs hi.acqPos) hi.allPos, rfl, fun p hp => ?_⟩
  obtain ⟨htot, a, -, rfl⟩ := mem_ratioOf_portions.mp hp
  refine ⟨?_, htot⟩
  cases hv : i.active a with
  | none => exact Rat.le_refl
  | some v => exact hi.activeNonneg a v hv

theorem sflRatio_some {t : Tracker} {seller : Aff} {settle : Int} {sold : Rat} {past future : List Tx}
    {r : SflRatio} (h : sflRatio t seller settle sold past future = .ok (some r)) :
    ∃ i, sflInfo t seller settle sold past future = .ok (some i) ∧ r = ratioOf sold i := by
  rw [sflRatio_eq] at h
  obtain ⟨oi, hsi, h⟩ := Except.bind_eq_ok_iff.mp h
  cases oi with
  | none => cases h
  | some i =>
    obtain ⟨r', hc, e⟩ := Except.map_eq_ok_iff.mp h
    cases e
    exact ⟨i, hsi, (calcRatio_ok_iff.mp hc).2.2⟩

theorem sflRatio_err {t : Tracker} (hb : ∀ a, 0 ≤ t.bal a) {seller : Aff} {settle : Int} {sold : Rat}
    (hs : 0 < sold) {past future : List Tx} (hvp : ∀ x ∈ past, x.Valid) (hvf : ∀ x ∈ future, x.Valid)
    {f : Failure} (h : sflRatio t seller settle sold past future = .error f) : UserErr f := by
  rw [sflRatio_eq] at h
  rcases Except.bind_eq_error_iff.mp h with hsi | ⟨oi, hsi, h⟩
  · exact sflInfo_err hsi
  · cases oi with
    | none => cases h
    | some i =>
      simp only [(calcRatio_ok hs (sflInfo_sliOk hb hvp hvf hsi)).1] at h
      cases h

/-- `get_delta_superficial_loss_info` never panics: its failures are `Result::Err`s. -/
theorem deltaSflInfo_err {t : Tracker} (hb : ∀ a, 0 ≤ t.bal a) {tx : Tx} {sold : Rat} (hs : 0 < sold)
    {spec : Option (Rat × Bool)} {loss : Rat} {past future : List Tx}
    (hvp : ∀ x ∈ past, x.Valid) (hvf : ∀ x ∈ future, x.Valid) {f : Failure}
    (h : deltaSflInfo t tx sold spec loss past future = .error f) : UserErr f := by
  rw [deltaSflInfo_eq] at h
  rcases Except.bind_eq_error_iff.mp h with hr | ⟨m, -, hd⟩
  · exact sflRatio_err hb hs hvp hvf hr
  · cases dsiOf_err hd
    exact .of_err rfl

theorem sflInfo_buyers {t : Tracker} (Q : Aff → Prop) {seller : Aff} {settle : Int} {sold : Rat}
    {past future : List Tx} (hp : ∀ x ∈ past, Q x.aff) (hf : ∀ x ∈ future, Q x.aff) {i : SliInfo}
    (h : sflInfo t seller settle sold past future = .ok (some i)) : ∀ a ∈ i.buyers, Q a := by
  have hins : ∀ {l : List Aff} {x : Tx}, (∀ a ∈ l, Q a) → Q x.aff →
      ∀ a ∈ (if x.act.isBuy = true then insertAff l x.aff else l), Q a := by
    intro l x hl hx a ha
    split at ha
    · exact (mem_insertAff.mp ha).elim (hl a) (· ▸ hx)
    · exact hl a ha
  obtain ⟨-, -, s1, hs1, hi⟩ := sflInfo_some h
  obtain ⟨-, -, rfl⟩ := sliOf_eq_some_iff.mp hi
  have h1 : ∀ a ∈ s1.buyers, Q a :=
    scanFwd_ind (P := fun x => Q x.aff) (I := fun _ s => ∀ a ∈ s.buyers, Q a)
      (fun hi hx _ hs => fwdStep_buyers hs ▸ hins hi hx) [] hf (by simp [initScan]) hs1
  exact scanBwd_ind (P := fun x => Q x.aff) (I := fun _ s => ∀ a ∈ s.buyers, Q a)
    (fun hi hx _ => bwdStep_buyers _ _ _ ▸ hins hi hx) past [] _ hp h1

theorem stepRow_inj_aff {t t' : Tracker} (Q : Aff → Prop) {tx : Tx} {past future : List Tx}
    {d : Delta} {inj : List Tx} (hp : ∀ y ∈ past, Q y.aff) (hfu : ∀ y ∈ future, Q y.aff)
    (h : stepRow t tx past future = .ok (d, t', inj)) :
    ∀ x ∈ inj, Q x.aff := by
  intro x hx
  obtain ⟨_, o, ho, _, _, rfl⟩ := stepRow_ok_iff.mp h
  obtain ⟨sh, r, p, _, hr, hpr, hrow⟩ := arm_inj_mem ho hx
  obtain ⟨i, hsi, rfl⟩ := sflRatio_some hr
  obtain ⟨-, -, rfl⟩ := adjustRow_some hrow
  obtain ⟨-, a, ha, rfl⟩ := mem_ratioOf_portions.mp hpr
  exact sflInfo_buyers Q hp hfu hsi a ha

end Acb
