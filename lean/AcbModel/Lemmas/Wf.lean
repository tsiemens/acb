/-
  Well-formedness invariant of the status tracker: balances and cost bases are non-negative,
  registered ⇔ no cost base, and the all-affiliate balance is the sum of the latest balances.
-/
import AcbModel.Lemmas.Sum
import AcbModel.Lemmas.Loop
namespace Acb

structure StatusOk (a : Aff) (s : Status) : Prop where
  reg : s.acb.isNone = a.registered
  sh : 0 ≤ s.shares
  acb : ∀ c, s.acb = some c → 0 ≤ c

/-- `U` lists (at least) the affiliates that have a status. -/
structure TrackerWFOn (U : List Aff) (t : Tracker) : Prop where
  nodup : U.Nodup
  support : ∀ a, t.m a ≠ none → a ∈ U
  ok : ∀ a s, t.m a = some s → StatusOk a s
  total : t.latestAll = sumOver U t.bal
  latest : t.latestPostAll = t.latestAll

def TrackerWF (t : Tracker) : Prop := ∃ U, TrackerWFOn U t

theorem defaultStatus_ok (a : Aff) : StatusOk a (defaultStatus a) := by
  constructor
  · unfold defaultStatus; cases a.registered <;> simp
  · simp [defaultStatus]
  · intro c h; unfold defaultStatus at h; split at h <;> simp_all

theorem TrackerWFOn.empty {As : List Aff} (hn : As.Nodup) (dflt : Aff) : TrackerWFOn As (.empty dflt) :=
  ⟨hn, by simp, by simp, (sumOver_zero As).symm, rfl⟩

theorem TrackerWFOn.bal_nonneg {U : List Aff} {t : Tracker} (h : TrackerWFOn U t) (a : Aff) : 0 ≤ t.bal a := by
  cases hm : t.m a with
  | none => rw [bal_of_none hm]; exact Rat.le_refl
  | some s => rw [bal_of_some hm]; exact (h.ok a s hm).sh

theorem TrackerWFOn.all_nonneg {U : List Aff} {t : Tracker} (h : TrackerWFOn U t) : 0 ≤ t.latestAll := by
  rw [h.total]; exact sumOver_nonneg (fun a _ => h.bal_nonneg a)

theorem TrackerWFOn.bal_le_all {U : List Aff} {t : Tracker} (h : TrackerWFOn U t) (a : Aff) :
    t.bal a ≤ t.latestAll := by
  by_cases hm : t.m a = none
  · rw [bal_of_none hm]; exact h.all_nonneg
  · rw [h.total]
    exact le_sumOver (fun b _ => h.bal_nonneg b) (h.support a hm)

theorem TrackerWFOn.nextPre_ok {U : List Aff} {t : Tracker} (h : TrackerWFOn U t) (a : Aff) :
    StatusOk a (t.nextPre a) := by
  rw [nextPre_eq]
  refine ⟨?_, h.bal_nonneg a, ?_⟩ <;> cases hm : t.m a
  · rw [acbOf_of_none hm]; exact (defaultStatus_ok a).reg
  · rw [acbOf_of_some hm]; exact (h.ok a _ hm).reg
  · rw [acbOf_of_none hm]; exact (defaultStatus_ok a).acb
  · rw [acbOf_of_some hm]; exact (h.ok a _ hm).acb

theorem TrackerWFOn.reg {U : List Aff} {t : Tracker} (h : TrackerWFOn U t) (a : Aff) :
    a.registered = (t.acbOf a).isNone := by
  rw [← nextPre_acb]; exact (h.nextPre_ok a).reg.symm

theorem sanityCheck_ok {U : List Aff} {t : Tracker} (h : TrackerWFOn U t) (a : Aff) :
    sanityCheck (t.nextPre a) a = .ok () :=
  sanityCheck_ok_iff.mpr ⟨by rw [nextPre_all, nextPre_shares]; exact Rat.not_lt.mpr (h.bal_le_all a),
    (h.nextPre_ok a).reg.symm⟩

theorem TrackerWFOn.m_none {U : List Aff} {t : Tracker} (h : TrackerWFOn U t) {a : Aff} (ha : a ∉ U) :
    t.m a = none :=
  Classical.byContradiction fun hm => ha (h.support a hm)

theorem TrackerWFOn.bal_zero {U : List Aff} {t : Tracker} (h : TrackerWFOn U t) {a : Aff} (ha : a ∉ U) :
    t.bal a = 0 :=
  bal_of_none (h.m_none ha)

theorem TrackerWFOn.cons {U : List Aff} {t : Tracker} (h : TrackerWFOn U t) {a : Aff} (ha : a ∉ U) :
    TrackerWFOn (a :: U) t :=
  ⟨List.nodup_cons.mpr ⟨ha, h.nodup⟩, fun x hx => List.mem_cons_of_mem a (h.support x hx), h.ok,
    by rw [sumOver_cons, h.bal_zero ha, Rat.zero_add]; exact h.total, h.latest⟩

theorem TrackerWFOn.put_of_mem {U : List Aff} {t : Tracker} (h : TrackerWFOn U t) {a : Aff} {v : Status}
    (ha : a ∈ U) (hv : StatusOk a v) (hall : v.all = v.shares + t.latestAll - t.bal a) :
    TrackerWFOn U (t.put a v) := by
  refine ⟨h.nodup, fun x hx => ?_, fun x s hs => ?_, ?_, by simp⟩
  · simp only [put_m, upd_apply] at hx
    split at hx
    · exact ‹x = a› ▸ ha
    · exact h.support x hx
  · simp only [put_m, upd_apply] at hs
    split at hs
    · cases hs
      exact ‹x = a› ▸ hv
    · exact h.ok x s hs
  · rw [put_latestAll, funext (put_bal t a v), hall, sumOver_upd h.nodup ha, ← h.total, Rat.sub_eq_add_neg,
      Rat.sub_eq_add_neg, Rat.add_assoc, Rat.add_comm]

theorem TrackerWFOn.put {U : List Aff} {t : Tracker} (h : TrackerWFOn U t) {a : Aff} {v : Status}
    (hv : StatusOk a v) (hall : v.all = v.shares + t.latestAll - t.bal a) :
    TrackerWFOn (if a ∈ U then U else a :: U) (t.put a v) := by
  split
  · exact h.put_of_mem ‹_› hv hall
  · exact (h.cons ‹_›).put_of_mem List.mem_cons_self hv hall

theorem arm_wf {t : Tracker} {tx : Tx} {pre : Status} {past future : List Tx} {o : ArmOut}
    (hv : tx.Valid) (hp : StatusOk tx.aff pre) (hall : pre.shares ≤ pre.all)
    (h : arm t tx pre past future = .ok o) :
    StatusOk tx.aff o.post ∧ 0 ≤ o.post.all := by
  have hsh := hp.sh
  have key : 0 ≤ (postOf pre tx.act).shares ∧ ∀ c, (postOf pre tx.act).acb = some c → 0 ≤ c := by
    unfold Tx.Valid at hv
    cases hact : tx.act with
    | buy sh px comm rate crate =>
      obtain ⟨h1, h2, h3, h4, h5⟩ := hact ▸ hv
      have hcr : 0 ≤ commRate rate crate := by
        unfold commRate; cases crate <;> simp [optPos] at h5 ⊢ <;> grind
      refine ⟨Rat.add_nonneg hsh (Rat.le_of_lt h1), fun c hc => ?_⟩
      obtain ⟨old, hpa, rfl⟩ := Option.map_eq_some_iff.mp hc
      exact Rat.add_nonneg (hp.acb old hpa) (Rat.add_nonneg
        (Rat.mul_nonneg (Rat.mul_nonneg h2 (Rat.le_of_lt h1)) (Rat.le_of_lt h4)) (Rat.mul_nonneg h3 hcr))
    | sell sh px comm rate crate spec =>
      rw [arm_sell hact] at h
      have hA := Rat.not_lt.mp (armSell_ok h).1
      refine ⟨hA, fun c hc => ?_⟩
      obtain ⟨aps, ha, rfl⟩ := Option.map_eq_some_iff.mp hc
      obtain ⟨a, hpa, rfl⟩ := Option.map_eq_some_iff.mp ((perShareAcb_eq pre).symm.trans ha)
      refine Rat.mul_nonneg hA ?_
      split
      · exact div_nonneg' (hp.acb a hpa) ‹_›
      · exact Rat.le_refl
    | roc ps rate =>
      rw [arm_roc hact] at h
      obtain ⟨-, ⟨old, ho, hlt⟩, -⟩ := armRoc_ok_iff.mp h
      refine ⟨hsh, fun c hc => ?_⟩
      obtain ⟨old', ho', rfl⟩ := Option.map_eq_some_iff.mp hc
      cases ho.symm.trans ho'
      exact Rat.not_lt.mp hlt
    | sfla sh ps =>
      obtain ⟨h1, h2⟩ := hact ▸ hv
      refine ⟨hsh, fun c hc => ?_⟩
      obtain ⟨old, ho, rfl⟩ := Option.map_eq_some_iff.mp hc
      exact Rat.add_nonneg (hp.acb old ho) (Rat.mul_nonneg (Rat.le_of_lt h1) (Rat.le_of_lt h2))
    | split post pre' io =>
      obtain ⟨h1, h2⟩ := hact ▸ hv
      exact ⟨Rat.mul_nonneg hsh (div_nonneg' (Rat.le_of_lt h1) h2), hp.acb⟩
  rw [arm_post h]
  refine ⟨⟨(postOf_acb_isNone pre tx.act).trans hp.reg, key.1, key.2⟩, ?_⟩
  -- the all-affiliate balance moves with the affiliate's own
  rw [postOf_all, Rat.sub_eq_add_neg, Rat.add_assoc, ← Rat.sub_eq_add_neg]
  exact Rat.add_nonneg key.1 ((Rat.le_iff_sub_nonneg _ _).mp hall)

end Acb
