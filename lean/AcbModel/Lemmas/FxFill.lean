/-
  Look-up (`lookupLast`) in the rows `fillUnknown` makes of a downloaded year.  A look-up is written
  as a chain of `Option.or`, later rows first; a run of zero placeholders is `if … then some 0 else none`.
-/
import AcbModel.Fx.Valid
import AcbModel.Lemmas.Lists
namespace Acb.Fx

@[simp] theorem upd_same {β : Type} (f : Int → β) (k : Int) (v : β) : upd f k v k = v := if_pos rfl

theorem upd_ne {β : Type} (f : Int → β) {k k' : Int} (v : β) (h : k' ≠ k) : upd f k v k' = f k' := if_neg h

theorem upd_self {β : Type} (f : Int → β) (k : Int) : upd f k (f k) = f := by
  funext k'
  by_cases h : k' = k
  · rw [h, upd_same]
  · exact upd_ne f _ h

theorem lookupLast_cons (x : DailyRate) (xs : List DailyRate) (d : Int) :
    lookupLast (x :: xs) d = (lookupLast xs d).or (if x.date = d then some x.rate else none) := by
  rw [lookupLast]
  cases lookupLast xs d <;> rfl

theorem lookupLast_append (a b : List DailyRate) (d : Int) :
    lookupLast (a ++ b) d = (lookupLast b d).or (lookupLast a d) := by
  induction a with
  | nil => simp [lookupLast]
  | cons x xs ih => simp only [List.cons_append, lookupLast_cons, ih, Option.or_assoc]

theorem lookupLast_none_iff (l : List DailyRate) (d : Int) :
    lookupLast l d = none ↔ ∀ x ∈ l, x.date ≠ d := by
  induction l with
  | nil => simp [lookupLast]
  | cons x xs ih => simp [lookupLast_cons, ih, and_comm]

theorem lookupLast_some_mem {l : List DailyRate} {d : Int} {r : Rat} (h : lookupLast l d = some r) :
    ⟨d, r⟩ ∈ l := by
  induction l with
  | nil => cases h
  | cons x xs ih =>
    rw [lookupLast_cons, Option.or_eq_some_iff] at h
    rcases h with h | ⟨_, h⟩
    · exact .tail _ (ih h)
    · split at h
      · cases h
        subst d
        exact .head _
      · cases h

theorem lookupLast_zerosFrom (s : Int) (n : Nat) (d : Int) :
    lookupLast (zerosFrom s n) d = if s ≤ d ∧ d < s + n then some 0 else none := by
  induction n generalizing s with
  | zero => simp [zerosFrom, lookupLast, Int.not_lt]
  | succ n ih =>
    simp only [zerosFrom, lookupLast_cons, ih]
    exact ite_some_or 0 (by omega)

theorem fillLoop_end (dtf : Int) (rs : List DailyRate) (hs : Sorted rs) (hge : ∀ x ∈ rs, dtf ≤ x.date) :
    dtf ≤ (fillLoop dtf rs).2 ∧ (∀ x ∈ rs, x.date < (fillLoop dtf rs).2) ∧
    ((fillLoop dtf rs).2 = dtf ∨ ∃ x ∈ rs, (fillLoop dtf rs).2 = x.date + 1) := by
  induction rs generalizing dtf with
  | nil => simp [fillLoop]
  | cons r rs ih =>
    obtain ⟨hlt, hs'⟩ := List.pairwise_cons.mp hs
    have hr : dtf ≤ r.date := hge r (List.mem_cons_self ..)
    have hgap : dtf + ((r.date - dtf).toNat : Int) + 1 = r.date + 1 := by omega
    obtain ⟨h1, h2, h3⟩ := ih (r.date + 1) hs' (fun x hx => hlt x hx)
    simp only [fillLoop, hgap, List.forall_mem_cons]
    refine ⟨by omega, ⟨by omega, h2⟩, .inr ?_⟩
    exact h3.elim (fun h => ⟨r, .head _, h⟩) fun ⟨x, hx, h⟩ => ⟨x, .tail _ hx, h⟩

theorem lookupLast_fillLoop (dtf : Int) (rs : List DailyRate) (hs : Sorted rs)
    (hge : ∀ x ∈ rs, dtf ≤ x.date) (d : Int) :
    lookupLast (fillLoop dtf rs).1 d =
      (lookupLast rs d).or (if dtf ≤ d ∧ d < (fillLoop dtf rs).2 then some 0 else none) := by
  induction rs generalizing dtf with
  | nil => exact (if_neg (by simp only [fillLoop]; omega)).symm
  | cons r rs ih =>
    obtain ⟨hlt, hs'⟩ := List.pairwise_cons.mp hs
    have hr : dtf ≤ r.date := hge r (List.mem_cons_self ..)
    have hgap : dtf + ((r.date - dtf).toNat : Int) = r.date := by omega
    obtain ⟨hend, -, -⟩ := fillLoop_end (r.date + 1) rs hs' (fun x hx => hlt x hx)
    simp only [fillLoop, hgap, lookupLast_append, lookupLast_cons, lookupLast_zerosFrom, Option.or_assoc,
      ih (r.date + 1) hs' (fun x hx => hlt x hx)]
    congr 1
    -- the days after `r`, `r` itself, the days before `r`
    by_cases hd : r.date = d
    · subst hd
      rw [if_neg (by omega), if_pos rfl]
      rfl
    · simp only [hd, if_false, Option.none_or]
      exact ite_some_or 0 (by omega)

theorem lookupLast_tailFill (c : Cal) (hc : c.OK) (y : Int) (n : Nat) (dtf : Int)
    (h0 : c.yearStart y ≤ dtf) (d : Int) :
    lookupLast (tailFill c y n dtf) d =
      if dtf ≤ d ∧ d < dtf + n ∧ d < c.yearStart (y + 1) then some 0 else none := by
  induction n generalizing dtf with
  | zero => exact (if_neg (by omega)).symm
  | succ n ih =>
    have hb := hc dtf y
    rw [tailFill]
    by_cases hy : c.yearOf dtf = y
    · simp only [if_pos hy, lookupLast_cons, ih (dtf + 1) (by omega)]
      exact ite_some_or 0 (by omega)
    · rw [if_neg hy, lookupLast, eq_comm]
      exact if_neg (by omega)

theorem lookupLast_fillUnknown (c : Cal) (hc : c.OK) (today y : Int) (l : List DailyRate)
    (hs : Sorted l) (hy : ∀ x ∈ l, c.yearOf x.date = y) (d : Int) (hd : c.yearOf d = y) :
    lookupLast (fillUnknown c today l y) d =
      (lookupLast l d).or (if d < today ∨ ∃ x ∈ l, d < x.date then some 0 else none) := by
  have hge : ∀ x ∈ l, c.yearStart y ≤ x.date := fun x hx => ((hc _ _).mp (hy x hx)).1
  obtain ⟨h1, h2, h3⟩ := fillLoop_end (c.yearStart y) l hs hge
  have hdb := (hc d y).mp hd
  have hle : (fillLoop (c.yearStart y) l).2 ≤ c.yearStart (y + 1) := by
    rcases h3 with h | ⟨x, hx, h⟩
    · omega
    · have := ((hc _ _).mp (hy x hx)).2
      omega
  simp only [fillUnknown, lookupLast_append, lookupLast_tailFill c hc y _ _ h1,
    lookupLast_fillLoop _ _ hs hge]
  cases h : lookupLast l d with
  | some r =>
    have : d < _ := h2 ⟨d, r⟩ (lookupLast_some_mem h)
    rw [if_neg (by omega)]
    rfl
  | none =>
    have hne := (lookupLast_none_iff l d).mp h
    -- the main loop stops on the day after the last published day
    have hend : d < (fillLoop (c.yearStart y) l).2 ↔ ∃ x ∈ l, d < x.date := by
      refine ⟨fun hlt => ?_, fun ⟨x, hx, hlt⟩ => Int.lt_trans hlt (h2 x hx)⟩
      rcases h3 with h | ⟨x, hx, h⟩
      · omega
      · exact ⟨x, hx, by have := hne x hx; omega⟩
    rw [Option.none_or]
    exact ite_some_or 0 (by rw [← hend]; omega)

end Acb.Fx
