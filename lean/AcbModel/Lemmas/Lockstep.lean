/-
  Two runs of the loop side by side: if one iteration takes related states to related states, the
  runs end alike, with deltas related one to one (`Runs.lockstep`).
-/
import AcbModel.Lemmas.Loop
import AcbModel.Lemmas.Rel
namespace Acb

def RunEnd.Rel (S : Tracker → List Tx → Tracker → List Tx → Prop) : RunEnd → RunEnd → Prop
  | .inl (t, p), .inl (t', p') => S t p t' p'
  | .inr f, .inr f' => f = f'
  | _, _ => False

theorem RunEnd.Rel.failure {S : Tracker → List Tx → Tracker → List Tx → Prop} {e e' : RunEnd}
    (h : RunEnd.Rel S e e') : e'.failure = e.failure := by
  cases e <;> cases e' <;> simp_all [RunEnd.Rel, RunEnd.failure]

/-- `S` relates the states (tracker and processed rows), `X` the rows still to come, one to one;
    `G` is what the rows of the first run are known to satisfy.  If one iteration takes related
    states to the same error or to related states, deltas and generated rows, then to every run
    from a state there is a run from each related state, over related rows, with deltas related
    one to one and a related end. -/
theorem Runs.lockstep {S : Tracker → List Tx → Tracker → List Tx → Prop} {X : Tx → Tx → Prop}
    {D : Delta → Delta → Prop} {G : Tx → Prop}
    (step : ∀ {t p t' p' x x' w w'}, S t p t' p' → X x x' → G x → Forall2 X w w' → (∀ y ∈ w, G y) →
      ExceptRel (fun a b => D a.1 b.1 ∧ S a.2.1 (x :: p) b.2.1 (x' :: p') ∧
          Forall2 X a.2.2 b.2.2 ∧ ∀ y ∈ a.2.2, G y)
        (stepRow t x p w) (stepRow t' x' p' w'))
    {r r' : List Tx} (hr : Forall2 X r r') (hgr : ∀ y ∈ r, G y)
    {t : Tracker} {past p : List Tx} {ds : List Delta} {e : RunEnd} (h : Runs r t past p ds e) :
    ∀ {t' past' p'}, S t past t' past' → Forall2 X p p' → (∀ y ∈ p, G y) →
      ∃ ds' e', Runs r' t' past' p' ds' e' ∧ Forall2 D ds ds' ∧ RunEnd.Rel S e e' := by
  induction h with
  | done =>
    intro t' past' p' hS hp _
    cases hp
    exact ⟨[], _, .done, .nil, hS⟩
  | @fail t past x p f hs =>
    intro t' past' p' hS hp hg
    cases hp with
    | @cons _ x' _ p' hx hp =>
      obtain ⟨hgx, hgp⟩ := List.forall_mem_cons.mp hg
      have := step hS hx hgx (hp.append hr) (List.forall_mem_append.mpr ⟨hgp, hgr⟩)
      rw [hs] at this
      rcases this.cases with ⟨_, h1, h2⟩ | ⟨_, _, h1, _⟩
      · cases h1; exact ⟨[], _, .fail h2, .nil, rfl⟩
      · cases h1
  | @step t past x p d t2 inj ds e hs _ ih =>
    intro t' past' p' hS hp hg
    cases hp with
    | @cons _ x' _ p' hx hp =>
      obtain ⟨hgx, hgp⟩ := List.forall_mem_cons.mp hg
      have := step hS hx hgx (hp.append hr) (List.forall_mem_append.mpr ⟨hgp, hgr⟩)
      rw [hs] at this
      rcases this.cases with ⟨_, h1, _⟩ | ⟨_, ⟨d', t2', inj'⟩, h1, h2, hd, hS2, hinj, hginj⟩
      · cases h1
      · cases h1
        obtain ⟨ds', e', hr', hD, hE⟩ := ih hS2 (hinj.append hp) (List.forall_mem_append.mpr ⟨hginj, hgp⟩)
        exact ⟨d' :: ds', e', .step h2 hr', .cons hd hD, hE⟩

end Acb
