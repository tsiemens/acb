/-
  Sums of a rational-valued function over a list of keys (`Costs.sumOver`; the ledger's `sumOver`
  over affiliates is the same function, see Lemmas/Sum.lean).
-/
namespace Acb.Costs

def sumOver {κ : Type} (l : List κ) (f : κ → Rat) : Rat := (l.map f).sum

@[simp] theorem sumOver_nil {κ : Type} (f : κ → Rat) : sumOver [] f = 0 := rfl
@[simp] theorem sumOver_cons {κ : Type} (x : κ) (l : List κ) (f : κ → Rat) :
    sumOver (x :: l) f = f x + sumOver l f := by simp [sumOver]

theorem sumOver_append {κ : Type} (l₁ l₂ : List κ) (f : κ → Rat) :
    sumOver (l₁ ++ l₂) f = sumOver l₁ f + sumOver l₂ f := by
  simp [sumOver, List.sum_append]

theorem sumOver_congr {κ : Type} {l : List κ} {f g : κ → Rat} (h : ∀ x ∈ l, f x = g x) :
    sumOver l f = sumOver l g := by
  unfold sumOver
  rw [List.map_congr_left h]

theorem sumOver_map {α κ : Type} (l : List α) (h : α → κ) (f : κ → Rat) :
    sumOver (l.map h) f = sumOver l (fun a => f (h a)) := by
  simp [sumOver, Function.comp_def]

theorem sumOver_flatMap {α κ : Type} (L : List α) (h : α → List κ) (f : κ → Rat) :
    sumOver (L.flatMap h) f = sumOver L (fun a => sumOver (h a) f) := by
  induction L with
  | nil => rfl
  | cons a L ih => rw [List.flatMap_cons, sumOver_append, ih, sumOver_cons]

theorem sumOver_perm {κ : Type} {l₁ l₂ : List κ} (h : l₁.Perm l₂) (f : κ → Rat) :
    sumOver l₁ f = sumOver l₂ f := by
  induction h with
  | nil => rfl
  | cons x _ ih => simp [ih]
  | swap x y l => simp only [sumOver_cons, ← Rat.add_assoc, Rat.add_comm (f y)]
  | trans _ _ ih1 ih2 => rw [ih1, ih2]

/-- Changing the function at one key of a duplicate-free list changes the sum by the difference
    there. -/
theorem sumOver_point {κ : Type} [DecidableEq κ] {l : List κ} (hn : l.Nodup) {k : κ} (hk : k ∈ l)
    {f g : κ → Rat} (hg : ∀ x, x ≠ k → g x = f x) : sumOver l g = sumOver l f - f k + g k := by
  have hp := List.perm_cons_erase hk
  rw [sumOver_perm hp g, sumOver_perm hp f, sumOver_cons, sumOver_cons,
    sumOver_congr (fun y hy => hg y (hn.mem_erase_iff.mp hy).1), Rat.add_comm (f k), Rat.add_sub_cancel,
    Rat.add_comm]

theorem sumOver_zero {κ : Type} (l : List κ) : sumOver l (fun _ => (0 : Rat)) = 0 := by
  induction l with
  | nil => rfl
  | cons a as ih => rw [sumOver_cons, ih, Rat.add_zero]

theorem sumOver_nonneg {κ : Type} {l : List κ} {f : κ → Rat} (h : ∀ a ∈ l, 0 ≤ f a) : 0 ≤ sumOver l f := by
  induction l with
  | nil => exact Rat.le_refl
  | cons x xs ih =>
    exact Rat.add_nonneg (h x (by simp)) (ih fun a ha => h a (by simp [ha]))

theorem le_sumOver {κ : Type} [DecidableEq κ] {l : List κ} {f : κ → Rat} (h : ∀ a ∈ l, 0 ≤ f a) {a : κ}
    (ha : a ∈ l) : f a ≤ sumOver l f := by
  rw [sumOver_perm (List.perm_cons_erase ha) f, sumOver_cons]
  have := sumOver_nonneg (l := l.erase a) (f := f) fun b hb => h b (List.mem_of_mem_erase hb)
  grind

theorem sumOver_add {κ : Type} (l : List κ) (f g : κ → Rat) :
    sumOver l (fun a => f a + g a) = sumOver l f + sumOver l g := by
  induction l with
  | nil => exact (Rat.add_zero 0).symm
  | cons x xs ih => simp only [sumOver_cons, ih]; grind

theorem sumOver_mul_right {κ : Type} (l : List κ) (f : κ → Rat) (c : Rat) :
    sumOver l (fun a => f a * c) = sumOver l f * c := by
  induction l with
  | nil => exact (Rat.zero_mul c).symm
  | cons x xs ih => simp only [sumOver_cons, ih]; grind

theorem sumOver_filter {κ : Type} (p : κ → Bool) (l : List κ) (f : κ → Rat) :
    sumOver (l.filter p) f = sumOver l fun x => if p x = true then f x else 0 := by
  induction l with
  | nil => rfl
  | cons x l ih =>
    by_cases h : p x = true
    · rw [List.filter_cons_of_pos h, sumOver_cons, sumOver_cons, ih, if_pos h]
    · rw [List.filter_cons_of_neg h, sumOver_cons, ih, if_neg h, Rat.zero_add]

end Acb.Costs
