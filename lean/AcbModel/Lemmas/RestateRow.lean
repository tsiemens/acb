import AcbModel.Lemmas.Scaling
import AcbModel.Lemmas.SecTxs
namespace Acb

def restateRow (f : Rat) (r : PRow) : PRow := { r with tx := restateTx f r.tx }

theorem isGlobalSplit_restateRow (f : Rat) (r : PRow) : isGlobalSplit (restateRow f r) = isGlobalSplit r := by
  unfold isGlobalSplit restateRow restateTx
  cases r.tx.act <;> rfl

theorem splitAffs_insert (f : Rat) (dflt : Aff) (holders : List Aff) (Q R : List PRow) {G : PRow}
    (hG : G.glob = true) :
    splitAffs dflt holders (Q ++ G :: R.map (restateRow f)) = splitAffs dflt holders (Q ++ R) := by
  refine splitAffs_congr dflt holders ?_
  simp only [nonGlobalAffs, List.filter_append, List.filter_cons, hG, Bool.not_true, Bool.false_eq_true,
    if_false, List.filter_map, List.map_append, List.map_map]
  rfl

theorem expandSplits_restate (f : Rat) (affs : List Aff) (R : List PRow) :
    expandSplits affs (R.map (restateRow f)) = (expandSplits affs R).map (restateTx f) := by
  simp only [expandSplits, List.flatMap_map, List.map_flatMap, isGlobalSplit_restateRow]
  congr 1
  funext r
  split
  · simp only [List.map_map]
    rfl
  · rfl

end Acb
