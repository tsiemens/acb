/-
  The rows `calc_total_costs` (--total-costs) is given for one security are its deltas (`rowOfDelta`).
  That they are in settlement-date order needs only `d.tx = tx` of a step and the date of generated
  rows, no tracker invariant.
-/
import AcbModel.Lemmas.RunDeltas
import AcbModel.App.CostsSpec
namespace Acb

theorem deltaList_sorted (dflt : Aff) (init : Option Status) (txs : List Tx)
    (hs : txs.Pairwise (fun a b => a.settle ≤ b.settle)) : DSorted (deltaList dflt init txs).1 := by
  cases txs with
  | nil => exact List.Pairwise.nil
  | cons x xs =>
    rcases deltaList_runs dflt init (List.cons_ne_nil x xs) with ⟨f, _, h⟩ | ⟨t, ds, e, _, hr, h⟩
    · rw [h]
      exact List.Pairwise.nil
    · rw [h]
      exact hr.sorted hs

open Costs in
/-- `isDefault` = `Affiliate::is_default` -/
def rowOfDelta (isDefault : Aff → Bool) (sec : Nat) (d : Delta) : Row :=
  { sec := sec, day := d.tx.settle, pre := d.pre.acb, post := d.post.acb,
    dflt := isDefault d.tx.aff, aff := d.tx.aff.key }

namespace Costs

/-- what one security's ledger must guarantee about the rows it hands to the cost report -/
structure SecRowsOk (s : Nat) (rows : List Row) : Prop where
  sec : ∀ r ∈ rows, r.sec = s
  nonneg : ∀ r ∈ rows, ∀ p, (r.post = some p ∨ r.pre = some p) → 0 ≤ p
  pre : ∀ r ∈ rows, r.post.isSome = true → r.pre.isSome = true
  sorted : rows.Pairwise (fun a b => a.day ≤ b.day)

theorem SecRowsOk.nil (s : Nat) : SecRowsOk s [] := ⟨by simp, by simp, by simp, .nil⟩

theorem WF_flatMap {α : Type} (sec : α → Nat) (rows : α → List Row) (L : List α)
    (hsec : L.Pairwise (fun a b => sec a ≠ sec b)) (hok : ∀ l ∈ L, SecRowsOk (sec l) (rows l)) :
    WF (L.flatMap rows) where
  nonneg r hr p hp := by
    obtain ⟨l, hl, hr⟩ := List.mem_flatMap.mp hr
    exact (hok l hl).nonneg r hr p hp
  pre r hr hp := by
    obtain ⟨l, hl, hr⟩ := List.mem_flatMap.mp hr
    exact (hok l hl).pre r hr hp
  sorted := by
    refine List.Pairwise.sublist List.filter_sublist (List.pairwise_flatMap.mpr
      ⟨fun l hl => (hok l hl).sorted.imp fun {a b} (h : a.day ≤ b.day) _ => h,
       hsec.imp_of_mem fun {l l'} hl hl' hne a ha b hb hab => ?_⟩)
    rw [(hok l hl).sec a ha, (hok l' hl').sec b hb] at hab
    exact absurd hab hne

end Costs
end Acb
