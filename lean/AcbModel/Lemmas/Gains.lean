/-
  Both gains folds of App/Gains.lean book (year, amount) pairs into the empty year map and add amounts
  to the total (`foldl_addPairs`): a security the pairs of its rows, the aggregate each security's year
  figures (`secGains_eq`, `aggGains_eq`).  What the resulting map `ofPairs ps t` holds is proved once.
-/
import AcbModel.App.Gains
import AcbModel.App.CostsSpec
import AcbModel.Lemmas.KeyList
import AcbModel.Lemmas.Round

namespace Acb.Gains
open Acb.Costs

def CG.sumYears (g : CG) : Rat := sumOver g.years (fun y => (g.byYear y).getD 0)

/-- the key list is the domain of the year map -/
structure CG.WF (g : CG) : Prop where
  nodup : g.years.Nodup
  keys : ∀ y, y ∈ g.years ↔ g.byYear y ≠ none

theorem CG.WF.empty : CG.empty.WF := ⟨by simp [CG.empty], by simp [CG.empty]⟩

theorem CG.WF.byYear_of_not_mem {g : CG} (h : g.WF) {y : Int} (hy : y ∉ g.years) : g.byYear y = none :=
  Classical.not_not.mp (fun hne => hy ((h.keys y).mpr hne))

theorem CG.WF.byYear_eq {g : CG} (h : g.WF) (y : Int) :
    g.byYear y = if y ∈ g.years then some ((g.byYear y).getD 0) else none := by
  split
  · rename_i hy
    obtain ⟨v, hv⟩ := Option.ne_none_iff_exists'.mp ((h.keys y).mp hy)
    simp [hv]
  · exact h.byYear_of_not_mem ‹_›

@[simp] theorem CG.add_total (g : CG) (y : Int) (v : Rat) : (g.add y v).total = g.total := rfl
@[simp] theorem CG.add_byYear (g : CG) (y : Int) (v : Rat) (y' : Int) :
    (g.add y v).byYear y' = if y' = y then some ((g.byYear y).getD 0 + v) else g.byYear y' := rfl
@[simp] theorem CG.add_years (g : CG) (y : Int) (v : Rat) : (g.add y v).years = addKey g.years y := rfl

theorem CG.add_wf {g : CG} (h : g.WF) (y : Int) (v : Rat) : (g.add y v).WF := by
  refine ⟨addKey_nodup h.nodup y, fun y' => ?_⟩
  simp only [CG.add_years, mem_addKey, CG.add_byYear, h.keys y']
  split <;> simp [*]

theorem CG.add_sumYears {g : CG} (h : g.WF) (y : Int) (v : Rat) :
    (g.add y v).sumYears = g.sumYears + v := by
  unfold CG.sumYears
  rw [CG.add_years, sumOver_addKey h.nodup y (f := fun y' => (g.byYear y').getD 0) (fun x hx => by simp [hx])
    (fun hy => by simp [h.byYear_of_not_mem hy])]
  simp only [CG.add_byYear, if_true, Option.getD_some]
  rw [← Rat.add_assoc, Rat.sub_add_cancel]

def addPairs (g : CG) (ps : List (Int × Rat)) : CG := ps.foldl (fun a p => a.add p.1 p.2) g

def amountsFor (ps : List (Int × Rat)) (y : Int) : List Rat :=
  (ps.filter (fun p => decide (p.1 = y))).map (·.2)

@[simp] theorem amountsFor_nil (y : Int) : amountsFor [] y = [] := rfl

theorem amountsFor_cons (p : Int × Rat) (ps : List (Int × Rat)) (y : Int) :
    amountsFor (p :: ps) y = if p.1 = y then p.2 :: amountsFor ps y else amountsFor ps y := by
  by_cases h : p.1 = y <;> simp [amountsFor, h]

theorem amountsFor_ne_nil (ps : List (Int × Rat)) (y : Int) : amountsFor ps y ≠ [] ↔ y ∈ ps.map (·.1) := by
  rw [amountsFor, ne_eq, List.map_eq_nil_iff, List.filter_eq_nil_iff, List.mem_map]
  simp only [decide_eq_true_eq, Classical.not_forall, Classical.not_not, exists_prop]

@[simp] theorem addPairs_nil (g : CG) : addPairs g [] = g := rfl
@[simp] theorem addPairs_cons (g : CG) (p : Int × Rat) (ps : List (Int × Rat)) :
    addPairs g (p :: ps) = addPairs (g.add p.1 p.2) ps := rfl
theorem addPairs_append (g : CG) (ps qs : List (Int × Rat)) :
    addPairs g (ps ++ qs) = addPairs (addPairs g ps) qs := by
  simp [addPairs, List.foldl_append]

@[simp] theorem addPairs_total (g : CG) (ps : List (Int × Rat)) : (addPairs g ps).total = g.total := by
  induction ps generalizing g with
  | nil => rfl
  | cons p ps ih => simp [ih]

theorem addPairs_withTotal (g : CG) (t : Rat) (ps : List (Int × Rat)) :
    addPairs { g with total := t } ps = { addPairs g ps with total := t } := by
  induction ps generalizing g with
  | nil => rfl
  | cons p ps ih => exact ih (g.add p.1 p.2)

theorem foldl_addPairs {α : Type} {step : CG → α → CG} {pairs : α → List (Int × Rat)} {amt : α → Rat}
    (h : ∀ g a, step g a = { addPairs g (pairs a) with total := g.total + amt a }) (l : List α) (g : CG) :
    l.foldl step g = { addPairs g (l.flatMap pairs) with total := g.total + sumOver l amt } := by
  induction l generalizing g with
  | nil => simp [Rat.add_zero]
  | cons a l ih =>
    rw [List.foldl_cons, ih, h, addPairs_withTotal, List.flatMap_cons, addPairs_append]
    simp [Rat.add_assoc]

theorem addPairs_wf {g : CG} (h : g.WF) (ps : List (Int × Rat)) : (addPairs g ps).WF := by
  induction ps generalizing g with
  | nil => exact h
  | cons p ps ih => exact ih (CG.add_wf h _ _)

theorem addPairs_mem_years (g : CG) (ps : List (Int × Rat)) (y : Int) :
    y ∈ (addPairs g ps).years ↔ y ∈ g.years ∨ y ∈ ps.map (·.1) := by
  induction ps generalizing g with
  | nil => simp
  | cons p ps ih => simp [ih, mem_addKey, or_assoc]

theorem addPairs_getD (g : CG) (ps : List (Int × Rat)) (y : Int) :
    ((addPairs g ps).byYear y).getD 0 = (g.byYear y).getD 0 + (amountsFor ps y).sum := by
  induction ps generalizing g with
  | nil => simp [Rat.add_zero]
  | cons p ps ih =>
    rw [addPairs_cons, ih, amountsFor_cons]
    by_cases e : p.1 = y
    · simp [e, Rat.add_assoc]
    · simp [e, Ne.symm e]

theorem addPairs_sumYears {g : CG} (h : g.WF) (ps : List (Int × Rat)) :
    (addPairs g ps).sumYears = g.sumYears + sumOver ps (·.2) := by
  induction ps generalizing g with
  | nil => simp [Rat.add_zero]
  | cons p ps ih =>
    rw [addPairs_cons, ih (CG.add_wf h _ _), CG.add_sumYears h]
    simp [Rat.add_assoc]

def ofPairs (ps : List (Int × Rat)) (t : Rat) : CG := { addPairs CG.empty ps with total := t }

theorem ofPairs_wf (ps : List (Int × Rat)) (t : Rat) : (ofPairs ps t).WF :=
  ⟨(addPairs_wf CG.WF.empty ps).nodup, (addPairs_wf CG.WF.empty ps).keys⟩

theorem ofPairs_mem_years (ps : List (Int × Rat)) (t : Rat) (y : Int) :
    y ∈ (ofPairs ps t).years ↔ y ∈ ps.map (·.1) := by
  simp [ofPairs, addPairs_mem_years, CG.empty]

theorem ofPairs_getD (ps : List (Int × Rat)) (t : Rat) (y : Int) :
    ((ofPairs ps t).byYear y).getD 0 = (amountsFor ps y).sum := by
  simp [ofPairs, addPairs_getD, CG.empty, Rat.zero_add]

theorem ofPairs_byYear (ps : List (Int × Rat)) (t : Rat) (y : Int) :
    (ofPairs ps t).byYear y = if y ∈ ps.map (·.1) then some (amountsFor ps y).sum else none := by
  rw [(ofPairs_wf ps t).byYear_eq, ofPairs_getD]
  simp only [ofPairs_mem_years]

theorem ofPairs_sumYears (ps : List (Int × Rat)) (t : Rat) : (ofPairs ps t).sumYears = sumOver ps (·.2) := by
  simpa [CG.sumYears, ofPairs, CG.empty, Rat.zero_add] using addPairs_sumYears CG.WF.empty ps

def gainPairs (yearOf : Int → Int) (rows : List GRow) : List (Int × Rat) :=
  rows.filterMap (fun r => r.gain.map (fun v => (yearOf r.day, v)))

theorem sumOver_gainPairs (yearOf : Int → Int) (rows : List GRow) :
    sumOver (gainPairs yearOf rows) (·.2) = (allGains rows).sum := by
  simp [sumOver, gainPairs, allGains, List.map_filterMap, Option.map_map, Function.comp_def]

theorem amountsFor_gainPairs (yearOf : Int → Int) (rows : List GRow) (y : Int) :
    amountsFor (gainPairs yearOf rows) y = gainsIn yearOf rows y := by
  -- both sides as one `filterMap` over the rows
  rw [amountsFor, gainPairs, gainsIn, List.filter_filterMap, List.map_filterMap, ← List.filterMap_eq_map',
    List.filterMap_filter]
  refine congrArg (List.filterMap · rows) (funext fun r => ?_)
  cases r.gain <;> simp [Option.filter]

theorem secGains_eq (yearOf : Int → Int) (rows : List GRow) :
    secGains yearOf rows = ofPairs (gainPairs yearOf rows) (allGains rows).sum := by
  have hs : secGains yearOf rows = (gainPairs yearOf rows).foldl
      (fun g p => { g.add p.1 p.2 with total := g.total + p.2 }) CG.empty := by
    rw [gainPairs, List.foldl_filterMap]
    refine congrArg (fun f => List.foldl f CG.empty rows) (funext fun g => funext fun r => ?_)
    unfold secStep
    cases r.gain <;> rfl
  rw [hs, foldl_addPairs (step := fun g p => { g.add p.1 p.2 with total := g.total + p.2 })
    (pairs := fun p => [p]) (amt := (·.2)) (fun _ _ => rfl), sumOver_gainPairs]
  simp [ofPairs, CG.empty, Rat.zero_add]

theorem secGains_total (yearOf : Int → Int) (rows : List GRow) :
    (secGains yearOf rows).total = (secGains yearOf rows).sumYears := by
  rw [secGains_eq, ofPairs_sumYears, sumOver_gainPairs]
  rfl

theorem mem_completed {yearOf : Int → Int} {rs : List SecResult} {g : CG} :
    g ∈ completed yearOf rs ↔ ∃ r ∈ rs, r.ok = true ∧ secGains yearOf r.rows = g := by
  simp [completed, and_assoc]

theorem completed_append (yearOf : Int → Int) (rs rs' : List SecResult) :
    completed yearOf (rs ++ rs') = completed yearOf rs ++ completed yearOf rs' := by
  simp [completed, List.filter_append]

theorem completed_cons_failed (yearOf : Int → Int) {r : SecResult} (h : r.ok = false) (rs : List SecResult) :
    completed yearOf (r :: rs) = completed yearOf rs := by
  simp [completed, h]

/-- The entries of `security_gains` are `secGains` of some rows, hence well-formed. -/
theorem completed_wf (yearOf : Int → Int) (rs : List SecResult) : ∀ g ∈ completed yearOf rs, g.WF := by
  intro g hg
  obtain ⟨r, _, _, rfl⟩ := mem_completed.mp hg
  rw [secGains_eq]
  exact ofPairs_wf _ _

/-- the (year, figure) pairs a security contributes, in the order `ρ` its year map is walked -/
def yearPairs (ρ : List Int → List Int) (g : CG) : List (Int × Rat) :=
  (ρ g.years).map (fun y => (y, (g.byYear y).getD 0))

theorem aggStep_eq (ρ : List Int → List Int) (acc g : CG) :
    aggStep ρ acc g = { addPairs acc (yearPairs ρ g) with total := acc.total + g.total } := by
  simp [aggStep, addPairs, yearPairs, List.foldl_map]

theorem map_fst_yearPairs (ρ : List Int → List Int) (g : CG) : (yearPairs ρ g).map (·.1) = ρ g.years := by
  simp [yearPairs, Function.comp_def]

theorem sumOver_yearPairs {ρ : List Int → List Int} (hρ : IsOrder ρ) (g : CG) :
    sumOver (yearPairs ρ g) (·.2) = g.sumYears :=
  (sumOver_map _ _ _).trans (sumOver_perm (hρ g.years) _)

theorem sum_amountsFor_yearPairs {ρ : List Int → List Int} (hρ : IsOrder ρ) {g : CG} (hg : g.WF) (y : Int) :
    (amountsFor (yearPairs ρ g) y).sum = (g.byYear y).getD 0 := by
  have hn : (ρ g.years).Nodup := (hρ g.years).nodup_iff.mpr hg.nodup
  have hf : (fun p : Int × Rat => decide (p.1 = y)) ∘ (fun y => (y, (g.byYear y).getD 0)) = (· = y) := rfl
  -- in a duplicate-free key list the year `y` occurs once or not at all
  rw [amountsFor, yearPairs, List.filter_map, hf, List.filter_eq, hn.count]
  by_cases hy : y ∈ g.years
  · simp [(hρ g.years).mem_iff, hy, Rat.add_zero]
  · simp [(hρ g.years).mem_iff, hy, hg.byYear_of_not_mem hy]

theorem aggGains_eq (σ : List CG → List CG) (ρ : List Int → List Int) (gs : List CG) :
    aggGains σ ρ gs = ofPairs ((σ gs).flatMap (yearPairs ρ)) (sumOver (σ gs) (·.total)) := by
  simpa [aggGains, ofPairs, CG.empty, Rat.zero_add] using foldl_addPairs (aggStep_eq ρ) (σ gs) CG.empty

theorem aggGains_total {σ : List CG → List CG} (hσ : IsOrder σ) (ρ : List Int → List Int) (gs : List CG) :
    (aggGains σ ρ gs).total = sumOver gs (·.total) := by
  rw [aggGains_eq]
  exact sumOver_perm (hσ gs) _

theorem aggGains_wf (σ : List CG → List CG) (ρ : List Int → List Int) (gs : List CG) :
    (aggGains σ ρ gs).WF := by
  rw [aggGains_eq]
  exact ofPairs_wf _ _

theorem aggGains_mem_years {σ : List CG → List CG} {ρ : List Int → List Int} (hσ : IsOrder σ) (hρ : IsOrder ρ)
    (gs : List CG) (y : Int) : y ∈ (aggGains σ ρ gs).years ↔ ∃ g ∈ gs, y ∈ g.years := by
  simp [aggGains_eq, ofPairs_mem_years, List.map_flatMap, map_fst_yearPairs, (hρ _).mem_iff, (hσ gs).mem_iff]

theorem aggGains_getD {σ : List CG → List CG} {ρ : List Int → List Int} (hσ : IsOrder σ) (hρ : IsOrder ρ)
    {gs : List CG} (hgs : ∀ g ∈ gs, g.WF) (y : Int) :
    ((aggGains σ ρ gs).byYear y).getD 0 = sumOver gs (fun g => (g.byYear y).getD 0) := by
  rw [aggGains_eq, ofPairs_getD]
  show sumOver (((σ gs).flatMap (yearPairs ρ)).filter _) (·.2) = _
  rw [List.filter_flatMap, sumOver_flatMap, sumOver_perm (hσ gs)]
  exact sumOver_congr fun g hg => sum_amountsFor_yearPairs hρ (hgs g hg) y

theorem aggGains_byYear {σ : List CG → List CG} {ρ : List Int → List Int} (hσ : IsOrder σ) (hρ : IsOrder ρ)
    {gs : List CG} (hgs : ∀ g ∈ gs, g.WF) (y : Int) :
    (aggGains σ ρ gs).byYear y =
      if ∃ g ∈ gs, y ∈ g.years then some (sumOver gs (fun g => (g.byYear y).getD 0)) else none := by
  rw [(aggGains_wf σ ρ gs).byYear_eq, aggGains_getD hσ hρ hgs]
  simp only [aggGains_mem_years hσ hρ]

theorem aggGains_sumYears {σ : List CG → List CG} {ρ : List Int → List Int} (hσ : IsOrder σ) (hρ : IsOrder ρ)
    (gs : List CG) : (aggGains σ ρ gs).sumYears = sumOver gs (·.sumYears) := by
  rw [aggGains_eq, ofPairs_sumYears, sumOver_flatMap, sumOver_perm (hσ gs)]
  exact sumOver_congr fun g _ => sumOver_yearPairs hρ g

theorem shownSigned_full (v : Rat) : shownSigned true v = v := by
  unfold shownSigned shown
  split <;> simp

theorem shownSigned_cents (v : Rat) : shownSigned false v = roundCent v := by
  unfold shownSigned shown
  split
  · simp [roundCent_neg]
  · simp

end Acb.Gains
