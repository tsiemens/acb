/-
  `filter_isort` needs no antisymmetry because insertion sort is stable.  `isort_eq_of_perm`: on a linear
  order the result depends only on the members, which is why `isort` may stand in for Rust's `sort()`.
-/
import AcbModel.Basic.Sort
namespace Acb
variable {α : Type} {le : α → α → Bool}

theorem ins_eq_insertBy {ins : α → List α → List α} (hnil : ∀ x, ins x [] = [x])
    (hcons : ∀ x y ys, ins x (y :: ys) = if le x y = true then x :: y :: ys else y :: ins x ys) :
    ins = insertBy le := by
  funext x l
  induction l with
  | nil => exact hnil x
  | cons y ys ih => rw [hcons, ih]; rfl

theorem foldr_eq_isort {ins : α → List α → List α} (hnil : ∀ x, ins x [] = [x])
    (hcons : ∀ x y ys, ins x (y :: ys) = if le x y = true then x :: y :: ys else y :: ins x ys)
    (l : List α) : l.foldr ins [] = isort le l := by
  rw [ins_eq_insertBy hnil hcons, isort]

theorem mem_isort {x : α} {l : List α} : x ∈ isort le l ↔ x ∈ l := (isort_perm le l).mem_iff

theorem insertBy_cons (a b : α) (bs : List α) :
    insertBy le a (b :: bs) = if le a b = true then a :: b :: bs else b :: insertBy le a bs := rfl

theorem insertBy_of_le {a : α} {l : List α} (h : ∀ b ∈ l, le a b = true) : insertBy le a l = a :: l := by
  cases l with
  | nil => rfl
  | cons b bs => rw [insertBy_cons, if_pos (h b (by simp))]

theorem isort_of_pairwise {l : List α} (h : l.Pairwise (fun a b => le a b = true)) : isort le l = l := by
  induction h with
  | nil => rfl
  | cons hx _ ih => exact (congrArg _ ih).trans (insertBy_of_le hx)

theorem filter_insertBy_neg (p : α → Bool) {a : α} (ha : p a = false) (l : List α) :
    (insertBy le a l).filter p = l.filter p := by
  induction l with
  | nil => simp [insertBy, ha]
  | cons b bs ih =>
    rw [insertBy_cons]
    by_cases hab : le a b = true
    · rw [if_pos hab, List.filter_cons_of_neg (by simp [ha])]
    · rw [if_neg hab, List.filter_cons, List.filter_cons, ih]

theorem filter_insertBy_pos (htrans : ∀ a b c, le a b = true → le b c = true → le a c = true)
    (p : α → Bool) {a : α} (ha : p a = true) {l : List α} (hs : l.Pairwise (fun x y => le x y = true)) :
    (insertBy le a l).filter p = insertBy le a (l.filter p) := by
  induction l with
  | nil => simp [insertBy, ha]
  | cons b bs ih =>
    have hb := List.pairwise_cons.mp hs
    rw [insertBy_cons]
    by_cases hab : le a b = true
    · rw [if_pos hab, List.filter_cons_of_pos ha, insertBy_of_le]
      intro z hz
      rcases List.mem_cons.mp ((List.filter_sublist).subset hz) with rfl | hz
      · exact hab
      · exact htrans _ _ _ hab (hb.1 z hz)
    · rw [if_neg hab]
      by_cases hpb : p b = true
      · rw [List.filter_cons_of_pos hpb, List.filter_cons_of_pos hpb, ih hb.2, insertBy_cons, if_neg hab]
      · rw [List.filter_cons_of_neg hpb, List.filter_cons_of_neg hpb, ih hb.2]

theorem filter_isort (htrans : ∀ a b c, le a b = true → le b c = true → le a c = true)
    (htotal : ∀ a b, le a b = true ∨ le b a = true) (p : α → Bool) (l : List α) :
    (isort le l).filter p = isort le (l.filter p) := by
  induction l with
  | nil => rfl
  | cons a as ih =>
    show (insertBy le a (isort le as)).filter p = _
    by_cases ha : p a = true
    · rw [filter_insertBy_pos htrans p ha (isort_pairwise htrans htotal as), ih, List.filter_cons_of_pos ha]
      rfl
    · rw [filter_insertBy_neg p (by simpa using ha), ih, List.filter_cons_of_neg ha]

theorem isort_le_pairwise [LE α] [DecidableLE α] [Std.IsLinearOrder α] (l : List α) :
    (isort (fun a b => decide (a ≤ b)) l).Pairwise (fun a b => a ≤ b) := by
  have := isort_pairwise (le := fun (a b : α) => decide (a ≤ b))
    (fun a b c hab hbc => decide_eq_true (Std.le_trans (of_decide_eq_true hab) (of_decide_eq_true hbc)))
    (fun a b => (Std.le_total (a := a) (b := b)).imp decide_eq_true decide_eq_true) l
  exact this.imp of_decide_eq_true

theorem isort_eq_of_perm [LE α] [DecidableLE α] [Std.IsLinearOrder α] {l₁ l₂ : List α}
    (h : l₁.Perm l₂) : isort (fun a b => decide (a ≤ b)) l₁ = isort (fun a b => decide (a ≤ b)) l₂ :=
  List.Perm.eq_of_pairwise (fun _ _ _ _ => Std.le_antisymm) (isort_le_pairwise l₁) (isort_le_pairwise l₂)
    ((isort_perm _ l₁).trans (h.trans (isort_perm _ l₂).symm))

end Acb
