/-
  The records of a written cache file `rates-<year>.csv` and what the reader makes of them, for any
  date text that satisfies `DateText.OK` (the two halves of the round trip, C14).
-/
import AcbModel.Fx.CacheFile
namespace Acb.Fx

theorem splitChar_ne_nil (c : Char) (s : List Char) : splitChar c s ≠ [] := by
  induction s with
  | nil => simp [splitChar]
  | cons x xs ih =>
    simp only [splitChar]
    split
    · simp
    · split <;> simp

theorem splitChar_append_sep {c : Char} {a : List Char} (rest : List Char) (h : c ∉ a) :
    splitChar c (a ++ c :: rest) = a :: splitChar c rest := by
  induction a with
  | nil => simp [splitChar]
  | cons x xs ih =>
    rw [List.mem_cons, not_or] at h
    simp only [List.cons_append, splitChar, if_neg (Ne.symm h.1), ih h.2]

theorem splitChar_no_sep {c : Char} {a : List Char} (h : c ∉ a) : splitChar c a = [a] := by
  induction a with
  | nil => simp [splitChar]
  | cons x xs ih =>
    rw [List.mem_cons, not_or] at h
    simp only [splitChar, if_neg (Ne.symm h.1), ih h.2]

/-- rate texts contain no separators (they are decimal numbers) -/
def TextRow.Clean (r : TextRow) : Prop := ',' ∉ r.rate ∧ '\n' ∉ r.rate

instance (r : TextRow) : Decidable r.Clean := by unfold TextRow.Clean; infer_instance

/-- the value a row has when read back -/
def TextRow.value? (r : TextRow) : Option DailyRate := (parseDec r.rate).map (fun v => ⟨r.date, v⟩)

/-- `[[[]]]`: the empty line after the last `\n`. -/
theorem records_of_render (dt : DateText) {dom : Int → Prop} (hdt : dt.OK dom) (rows : List TextRow)
    (hc : ∀ r ∈ rows, r.Clean) (hd : ∀ r ∈ rows, dom r.date) :
    (splitChar '\n' (renderRows dt rows)).map (splitChar ',') =
      rows.map (fun (r : TextRow) => [dt.render r.date, r.rate]) ++ [[[]]] := by
  induction rows with
  | nil => simp [renderRows, splitChar]
  | cons r rs ih =>
    rw [List.forall_mem_cons] at hc hd
    obtain ⟨⟨hcomma, hnewline⟩, hcs⟩ := hc
    have hnl : '\n' ∉ dt.render r.date ++ ',' :: r.rate := by
      simp only [List.mem_append, List.mem_cons, not_or]
      exact ⟨hdt.noNewline _ hd.1, by decide, hnewline⟩
    have : renderRows dt (r :: rs) = (dt.render r.date ++ ',' :: r.rate) ++ '\n' :: renderRows dt rs := by
      simp [renderRows, renderRow]
    rw [this, splitChar_append_sep _ hnl, List.map_cons, ih hcs hd.2,
      splitChar_append_sep _ (hdt.noComma _ hd.1), splitChar_no_sep hcomma]
    rfl

theorem readRecords_rendered (dt : DateText) {dom : Int → Prop} (hdt : dt.OK dom) (rows : List TextRow)
    (hd : ∀ r ∈ rows, dom r.date) (exp : Option Nat) (he : ∀ n, exp = some n → n = 2) :
    readRecords dt exp (rows.map (fun (r : TextRow) => [dt.render r.date, r.rate]) ++ [[[]]]) =
      rows.filterMap TextRow.value? := by
  induction rows generalizing exp with
  | nil => simp [readRecords]
  | cons r rs ih =>
    rw [List.forall_mem_cons] at hd
    have hrec : (parseRecord dt [dt.render r.date, r.rate]).toList = (r.value?).toList := by
      simp only [parseRecord, hdt.roundtrip _ hd.1, TextRow.value?]
      cases parseDec r.rate <;> rfl
    -- whatever number of fields was expected so far, two are expected from here on
    have step : ∀ rest, readRecords dt exp ([dt.render r.date, r.rate] :: rest) =
        (r.value?).toList ++ readRecords dt (some 2) rest := by
      intro rest
      cases exp with
      | none => simp [readRecords, hrec]
      | some n => simp [readRecords, hrec, he n rfl]
    rw [List.map_cons, List.cons_append, step, ih hd.2 (some 2) (fun _ h => (Option.some.inj h).symm)]
    cases h : r.value? <;> simp [h]

end Acb.Fx
