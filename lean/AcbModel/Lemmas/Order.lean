/-
  Row order (C07): the sort key is a strict order on rows with distinct read indices, so the sorted
  list is determined by its members, and the processing order has a declarative form.
-/
import AcbModel.App.Order
import AcbModel.Lemmas.Lists
namespace Acb.Order

variable {α : Type}

theorem keyLt_trans {a b c : Keyed α} (h1 : keyLt a b) (h2 : keyLt b c) : keyLt a c := by
  unfold keyLt at *
  omega

theorem keyLt_asymm {a b : Keyed α} (h1 : keyLt a b) (h2 : keyLt b a) : False := by
  unfold keyLt at *
  omega

theorem keyLt_total {a b : Keyed α} (h : a.idx ≠ b.idx) (hn : ¬ keyLt a b) : keyLt b a := by
  unfold keyLt at *
  omega

/-- Why Rust's sorting algorithm does not matter. -/
theorem keyed_sorted_unique (l1 l2 : List (Keyed α)) (h1 : l1.Pairwise keyLt) (h2 : l2.Pairwise keyLt)
    (hm : ∀ x, x ∈ l1 ↔ x ∈ l2) : l1 = l2 :=
  sorted_unique (fun _ _ => keyLt_asymm) h1 h2 hm

theorem mem_insertKeyed (a x : Keyed α) (l : List (Keyed α)) : x ∈ insertKeyed a l ↔ x = a ∨ x ∈ l := by
  induction l with
  | nil => simp [insertKeyed]
  | cons b r ih =>
    simp only [insertKeyed]
    split
    · simp
    · simp [ih, or_left_comm]

theorem mem_sortKeyed (x : Keyed α) (l : List (Keyed α)) : x ∈ sortKeyed l ↔ x ∈ l := by
  induction l with
  | nil => simp [sortKeyed]
  | cons a r ih => simp [sortKeyed, mem_insertKeyed, ih]

theorem sorted_insertKeyed (a : Keyed α) (l : List (Keyed α)) (hs : l.Pairwise keyLt)
    (hd : ∀ b ∈ l, a.idx ≠ b.idx) : (insertKeyed a l).Pairwise keyLt := by
  induction l with
  | nil => simp [insertKeyed]
  | cons b r ih =>
    simp only [insertKeyed]
    split
    next hab => exact pairwise_cons_cons hs hab (fun _ => keyLt_trans hab)
    next hab =>
      exact pairwise_cons_insert hs (ih (List.pairwise_cons.1 hs).2 (fun x hx => hd x (by simp [hx])))
        (fun x => (mem_insertKeyed a x r).1) (keyLt_total (hd b (by simp)) hab)

theorem sorted_sortKeyed (l : List (Keyed α)) (hd : l.Pairwise (fun a b => a.idx ≠ b.idx)) :
    (sortKeyed l).Pairwise keyLt := by
  induction l with
  | nil => simp [sortKeyed]
  | cons a r ih =>
    rw [List.pairwise_cons] at hd
    apply sorted_insertKeyed a _ (ih hd.2)
    intro b hb
    exact hd.1 b ((mem_sortKeyed b r).1 hb)

theorem reindex_idx_ge (rows : List (InRow α)) (i : Nat) : ∀ k ∈ reindex rows i, i ≤ k.idx := by
  induction rows generalizing i with
  | nil => simp [reindex]
  | cons r rs ih =>
    intro k hk
    simp only [reindex, List.mem_cons] at hk
    rcases hk with h | h
    · subst h
      exact Nat.le_refl _
    · have := ih (i + 1) k h
      omega

theorem reindex_increasing (rows : List (InRow α)) (i : Nat) :
    (reindex rows i).Pairwise (fun a b => a.idx < b.idx) := by
  induction rows generalizing i with
  | nil => simp [reindex]
  | cons r rs ih =>
    simp only [reindex, List.pairwise_cons]
    refine ⟨?_, ih (i + 1)⟩
    intro k hk
    have := reindex_idx_ge rs (i + 1) k hk
    show i < k.idx
    omega

theorem reindex_filter_strip (rows : List (InRow α)) (i : Nat) (p : InRow α → Bool) :
    ((reindex rows i).filter (fun k => p (strip k))).map strip = rows.filter p := by
  induction rows generalizing i with
  | nil => rfl
  | cons r rs ih =>
    simp only [reindex, List.filter_cons]
    have : strip (⟨r.settle, i, r.sec, r.val⟩ : Keyed α) = r := rfl
    rw [this]
    split
    · simp only [List.map_cons, this, ih]
    · exact ih (i + 1)

theorem mem_reindex_strip (rows : List (InRow α)) (i : Nat) (k : Keyed α) (h : k ∈ reindex rows i) :
    strip k ∈ rows := by
  induction rows generalizing i with
  | nil => simp [reindex] at h
  | cons r rs ih =>
    simp only [reindex, List.mem_cons] at h
    rcases h with h | h
    · subst h
      simp [strip]
    · exact List.mem_cons_of_mem _ (ih (i + 1) h)

theorem mem_insertDate (d x : Int) (l : List Int) : x ∈ insertDate d l ↔ x = d ∨ x ∈ l := by
  induction l with
  | nil => simp [insertDate]
  | cons e r ih =>
    simp only [insertDate]
    split
    · simp
    · split
      · rename_i h
        subst h
        simp
      · simp [ih, or_left_comm]

theorem sorted_insertDate (d : Int) (l : List Int) (hs : l.Pairwise (· < ·)) :
    (insertDate d l).Pairwise (· < ·) := by
  induction l with
  | nil => simp [insertDate]
  | cons e r ih =>
    simp only [insertDate]
    split
    next hde => exact pairwise_cons_cons hs hde (fun _ => Int.lt_trans hde)
    next =>
      split
      · exact hs
      · exact pairwise_cons_insert hs (ih (List.pairwise_cons.1 hs).2) (fun x => (mem_insertDate d x r).1)
          (by omega)

theorem mem_dates (rows : List (InRow α)) (d : Int) : d ∈ dates rows ↔ ∃ r ∈ rows, r.settle = d := by
  induction rows with
  | nil => simp [dates]
  | cons r rs ih =>
    simp only [dates, mem_insertDate, ih, List.mem_cons]
    constructor
    · rintro (h | ⟨x, hx, hd⟩)
      · exact ⟨r, Or.inl rfl, h.symm⟩
      · exact ⟨x, Or.inr hx, hd⟩
    · rintro ⟨x, hx | hx, hd⟩
      · subst hx
        exact Or.inl hd.symm
      · exact Or.inr ⟨x, hx, hd⟩

theorem sorted_dates (rows : List (InRow α)) : (dates rows).Pairwise (· < ·) := by
  induction rows with
  | nil => simp [dates]
  | cons r rs ih => exact sorted_insertDate _ _ ih

theorem process_eq_canonical (rows : List (InRow α)) (s : String) : process rows s = canonical rows s := by
  unfold process canonical perSecurity
  -- keyed version of the right-hand side
  have hB : (dates rows).flatMap (fun d => cls rows s d) =
      ((dates rows).flatMap
        (fun d => (reindex rows 0).filter (fun k => k.sec == s && k.settle == d))).map strip := by
    rw [List.map_flatMap]
    congr 1
    funext d
    exact (reindex_filter_strip rows 0 (fun r => r.sec == s && r.settle == d)).symm
  rw [hB]
  congr 1
  apply keyed_sorted_unique
  · exact (sorted_sortKeyed _ ((reindex_increasing rows 0).imp (fun h => Nat.ne_of_lt h))).sublist
      List.filter_sublist
  · refine List.pairwise_flatMap.2 ⟨?_, ?_⟩
    · intro d _
      apply ((reindex_increasing rows 0).sublist List.filter_sublist).imp_of_mem
      intro a b ha hb hab
      simp only [List.mem_filter, Bool.and_eq_true, beq_iff_eq] at ha hb
      obtain ⟨_, _, hda⟩ := ha
      obtain ⟨_, _, hdb⟩ := hb
      right
      exact ⟨by rw [hda, hdb], hab⟩
    · apply (sorted_dates rows).imp
      intro d1 d2 hd x hx y hy
      simp only [List.mem_filter, Bool.and_eq_true, beq_iff_eq] at hx hy
      obtain ⟨_, _, hdx⟩ := hx
      obtain ⟨_, _, hdy⟩ := hy
      left
      rw [hdx, hdy]
      exact hd
  · intro x
    simp only [List.mem_filter, mem_sortKeyed, List.mem_flatMap, Bool.and_eq_true, beq_iff_eq]
    constructor
    · rintro ⟨hx, hs⟩
      refine ⟨x.settle, ?_, hx, hs, rfl⟩
      rw [mem_dates]
      exact ⟨strip x, mem_reindex_strip rows 0 x hx, rfl⟩
    · rintro ⟨d, _, hx, hs, _⟩
      exact ⟨hx, hs⟩

theorem Admissible.mem_iff {rows' rows : List (InRow α)} (h : Admissible rows' rows) (r : InRow α) :
    r ∈ rows' ↔ r ∈ rows := by
  have key : ∀ (l : List (InRow α)), r ∈ l ↔ r ∈ cls l r.sec r.settle := by
    intro l
    simp [cls, List.mem_filter]
  rw [key rows', key rows, h]

theorem Admissible.dates_eq {rows' rows : List (InRow α)} (h : Admissible rows' rows) : dates rows' = dates rows := by
  apply sorted_unique (fun a b h1 h2 => by omega) (sorted_dates rows') (sorted_dates rows)
  intro d
  rw [mem_dates, mem_dates]
  constructor
  · rintro ⟨r, hr, hd⟩
    exact ⟨r, (h.mem_iff r).1 hr, hd⟩
  · rintro ⟨r, hr, hd⟩
    exact ⟨r, (h.mem_iff r).2 hr, hd⟩

theorem Admissible.refl (rows : List (InRow α)) : Admissible rows rows := fun _ _ => rfl
theorem Admissible.trans {a b c : List (InRow α)} (h1 : Admissible a b) (h2 : Admissible b c) : Admissible a c :=
  fun s d => (h1 s d).trans (h2 s d)
theorem Admissible.symm {a b : List (InRow α)} (h : Admissible a b) : Admissible b a := fun s d => (h s d).symm

end Acb.Order
