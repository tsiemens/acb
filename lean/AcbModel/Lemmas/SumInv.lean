/-
  What the arguments of C15 and C10 read of a tracker that is well formed on a duplicate-free list
  `As` (`TrackerWFOn As`, kept by `Runs.wfOn`): `SumInv`, `Supp`, `Ready` are projections of it.
-/
import AcbModel.Lemmas.WfLoop
namespace Acb

def Supp (As : List Aff) (t : Tracker) : Prop := ∀ a, a ∉ As → t.m a = none

theorem TrackerWFOn.supp {As : List Aff} {t : Tracker} (h : TrackerWFOn As t) : Supp As t :=
  fun _ ha => h.m_none ha

structure SumInv (As : List Aff) (t : Tracker) : Prop where
  support : ∀ a, a ∉ As → t.bal a = 0
  total : t.latestAll = sumOver As t.bal
  latest : t.latestPostAll = t.latestAll

theorem TrackerWFOn.sumInv {As : List Aff} {t : Tracker} (h : TrackerWFOn As t) : SumInv As t :=
  ⟨fun a ha => bal_of_none (h.supp a ha), h.total, h.latest⟩

theorem SumInv.setLatest {As : List Aff} (hn : As.Nodup) {t t2 : Tracker} (h : SumInv As t) {a : Aff} (ha : a ∈ As)
    {v : Status} (hs : t.setLatest a v = .ok t2) : SumInv As t2 := by
  obtain ⟨_, hall, rfl⟩ := setLatest_ok_iff.mp hs
  refine ⟨fun x hx => ?_, ?_, by simp⟩
  · rw [put_bal, if_neg (fun e : x = a => hx (e ▸ ha))]
    exact h.support x hx
  · rw [put_latestAll, funext (put_bal t a v), sumOver_upd hn ha, ← h.total, hall]
    grind

/-- what the split rows need of the tracker -/
structure Ready (As : List Aff) (c : Tracker) : Prop where
  sum : SumInv As c
  nonneg : ∀ a, 0 ≤ c.bal a
  reg : ∀ a, a.registered = (c.acbOf a).isNone

theorem TrackerWFOn.ready {As : List Aff} {t : Tracker} (h : TrackerWFOn As t) : Ready As t :=
  ⟨h.sumInv, h.bal_nonneg, h.reg⟩

end Acb
