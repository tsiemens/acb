/-
  What the window scans do not read: the `superficial loss` cell of a sale, cost-base adjustment
  rows to come, and processed rows lying before the window.  Histories that agree after erasing
  these give the same scans (`FutSim.scan`, `scanBwd_sim`), hence the same superficial-loss ratio.
-/
import AcbModel.Lemmas.Observables
import AcbModel.Lemmas.Window
namespace Acb

/-- forget the declared superficial loss of a sale -/
def eraseSpecAct : Action → Action
  | .sell sh px comm rate crate _ => .sell sh px comm rate crate none
  | a => a

def eraseSpec (x : Tx) : Tx := { x with act := eraseSpecAct x.act }

@[simp] theorem eraseSpec_settle (x : Tx) : (eraseSpec x).settle = x.settle := rfl
@[simp] theorem eraseSpec_aff (x : Tx) : (eraseSpec x).aff = x.aff := rfl

def isSflaB (x : Tx) : Bool := match x.act with | .sfla _ _ => true | _ => false

theorem isSflaB_iff (x : Tx) : isSflaB x = true ↔ IsSfla x := by
  unfold isSflaB IsSfla
  cases x.act <;> simp

/-- what the forward scan reads of the rows to come -/
def core (f : List Tx) : List Tx := (f.filter (fun x => !isSflaB x)).map eraseSpec

theorem core_cons (x : Tx) (f : List Tx) :
    core (x :: f) = if isSflaB x then core f else eraseSpec x :: core f := by
  unfold core
  by_cases h : isSflaB x <;> simp [h]

theorem core_append (a b : List Tx) : core (a ++ b) = core a ++ core b := by
  unfold core
  simp

theorem core_sfla_rows {l : List Tx} (h : ∀ x ∈ l, IsSfla x) : core l = [] := by
  unfold core
  rw [List.filter_eq_nil_iff.mpr fun x hx => by simp [(isSflaB_iff x).mpr (h x hx)]]
  rfl

theorem core_filter (p : Int → Bool) (f : List Tx) :
    core (f.filter (fun x => p x.settle)) = (core f).filter (fun x => p x.settle) := by
  unfold core
  simp [List.filter_map, List.filter_filter, Function.comp_def, Bool.and_comm]

theorem core_sorted {f : List Tx} (h : SettleAsc f) : SettleAsc (core f) := by
  unfold core SettleAsc at *
  rw [List.pairwise_map]
  exact (h.sublist List.filter_sublist).imp (fun hab => by simpa using hab)

theorem isSflaB_erase (x : Tx) : isSflaB (eraseSpec x) = isSflaB x := by
  unfold isSflaB eraseSpec eraseSpecAct
  cases x.act <;> rfl

theorem core_cons_erase {x x' : Tx} (h : eraseSpec x = eraseSpec x') {l l' : List Tx} (hl : core l = core l') :
    core (x :: l) = core (x' :: l') := by
  rw [core_cons, core_cons, ← isSflaB_erase x, h, isSflaB_erase, hl]

theorem fwdStep_erase (t : Tracker) (s : Scan) (x : Tx) : fwdStep t s (eraseSpec x) = fwdStep t s x := by
  unfold fwdStep eraseSpec
  cases x.act <;> rfl

theorem bwdStep_erase (t : Tracker) (s : Scan) (x : Tx) : bwdStep t s (eraseSpec x) = bwdStep t s x := by
  unfold bwdStep eraseSpec
  cases x.act <;> rfl

theorem scanFwd_core_nobreak {t : Tracker} (lastDay : Int) :
    ∀ (f : List Tx) (s : Scan), (∀ x ∈ f, x.settle ≤ lastDay) →
      scanFwd t lastDay s f = scanFwd t lastDay s (core f) := by
  intro f
  induction f with
  | nil =>
    intro s _
    rfl
  | cons x rest ih =>
    intro s h
    obtain ⟨hx, hr⟩ := List.forall_mem_cons.mp h
    have hx : ¬ x.settle > lastDay := by omega
    rw [core_cons, scanFwd_cons, if_neg hx]
    by_cases hs : isSflaB x = true
    · obtain ⟨_, _, e⟩ := (isSflaB_iff x).mp hs
      rw [if_pos hs, fwdStep_sfla e]
      exact ih _ hr
    · rw [if_neg hs, scanFwd_cons, eraseSpec_settle, if_neg hx, fwdStep_erase]
      cases fwdStep t s x with
      | error e => rfl
      | ok s' => exact ih _ hr

/-- how the rows to come are related: no forward scan can tell them apart -/
structure FutSim (f f' : List Tx) : Prop where
  scan : ∀ (t : Tracker) (lastDay : Int) (s : Scan), scanFwd t lastDay s f' = scanFwd t lastDay s f

theorem FutSim.refl (f : List Tx) : FutSim f f := ⟨fun _ _ _ => rfl⟩

/-- On date-sorted rows the forward scan depends on the rows to come only through
    `core`: the `break` is a filter on the date, which commutes with `core`. -/
theorem FutSim.of_core {f f' : List Tx} (h : SettleAsc f) (h' : SettleAsc f') (hc : core f = core f') :
    FutSim f f' := by
  refine ⟨fun t lastDay s => ?_⟩
  have key : ∀ f, SettleAsc f → scanFwd t lastDay s f =
      scanFwd t lastDay s ((core f).filter (fun x => decide (x.settle ≤ lastDay))) := by
    intro f hf
    rw [scanFwd_filter lastDay f s hf,
      scanFwd_core_nobreak lastDay _ s (fun x hx => by simpa using (List.mem_filter.mp hx).2),
      core_filter (fun d => decide (d ≤ lastDay))]
  rw [key f' h', key f h, hc]

/-- `P` lies before the window starting at `firstDay`: its most recent row (the list is most
    recent first) settles before that day, so the backward scan stops there at the latest. -/
def FarList (P : List Tx) (firstDay : Int) : Prop := ∀ p, P.head? = some p → p.settle < firstDay

theorem FarList.of_forall {P : List Tx} {firstDay : Int} (h : ∀ p ∈ P, p.settle < firstDay) :
    FarList P firstDay :=
  fun p hp => h p (List.mem_of_mem_head? hp)

theorem scanBwd_far {t : Tracker} (firstDay : Int) (P : List Tx) (hP : FarList P firstDay)
    (X : List Tx) (s : Scan) : scanBwd t firstDay s (X ++ P) = scanBwd t firstDay s X := by
  rw [scanBwd_takeWhile, scanBwd_takeWhile t firstDay X]
  congr 1
  induction X with
  | nil =>
    cases P with
    | nil => rfl
    | cons p ps => exact List.takeWhile_cons_of_neg (by have := hP p rfl; simpa using this)
  | cons x X ih => simp only [List.cons_append, List.takeWhile_cons, ih]

/-- `P` lies before the window of `x`, if `x` is a sale (other rows have no window) -/
def FarFor (P : List Tx) (x : Tx) : Prop :=
  ∀ sh px comm rate crate spec, x.act = .sell sh px comm rate crate spec →
    FarList P (x.settle - Gen.sflWindowBeforeDays)

theorem FarFor.of_forall {P : List Tx} {x : Tx} (h : ∀ p ∈ P, p.settle < x.settle - Gen.sflWindowBeforeDays) :
    FarFor P x :=
  fun _ _ _ _ _ _ _ => .of_forall h

theorem FarFor.nil (x : Tx) : FarFor [] x := .of_forall (by simp)

theorem FarFor.of_sell {P : List Tx} {x : Tx}
    (h : ∀ sh px comm rate crate spec, x.act = .sell sh px comm rate crate spec → FarFor P x) : FarFor P x :=
  fun sh px comm rate crate spec hact => h sh px comm rate crate spec hact sh px comm rate crate spec hact

theorem IsSfla.farFor {x : Tx} (h : IsSfla x) (P : List Tx) : FarFor P x := by
  obtain ⟨sh, ps, hx⟩ := h
  intro _ _ _ _ _ _ hact
  rw [hx] at hact
  cases hact

theorem scanBwd_erase {t : Tracker} (firstDay : Int) :
    ∀ (X : List Tx) (s : Scan), scanBwd t firstDay s (X.map eraseSpec) = scanBwd t firstDay s X := by
  intro X
  induction X with
  | nil =>
    intro s
    rfl
  | cons x rest ih =>
    intro s
    simp only [List.map_cons, scanBwd_cons, eraseSpec_settle, bwdStep_erase, ih]

/-- how the recent parts of the processed rows of two runs are related: equal up to declared
    amounts -/
structure PastSim (X X' : List Tx) : Prop where
  erase : X.map eraseSpec = X'.map eraseSpec

theorem PastSim.refl (X : List Tx) : PastSim X X := ⟨rfl⟩

theorem PastSim.cons {X X' : List Tx} (h : PastSim X X') {x x' : Tx} (hx : eraseSpec x = eraseSpec x') :
    PastSim (x :: X) (x' :: X') := ⟨by simp [h.erase, hx]⟩

theorem scanBwd_sim {t : Tracker} {firstDay : Int} {X X' P P' : List Tx} (hX : PastSim X X')
    (hP : FarList P firstDay) (hP' : FarList P' firstDay) (s : Scan) :
    scanBwd t firstDay s (X' ++ P') = scanBwd t firstDay s (X ++ P) := by
  rw [scanBwd_far firstDay P' hP', scanBwd_far firstDay P hP, ← scanBwd_erase firstDay X,
    ← scanBwd_erase firstDay X', hX.erase]

end Acb
