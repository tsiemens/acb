import AcbModel.App.CsvText
import AcbModel.Lemmas.Lists
namespace Acb.Csv

theorem digitVal_digitChar {n : Nat} (h : n < 10) : digitVal (digitChar n) = n := by
  have : ∀ k : Fin 10, digitVal (digitChar k.val) = k.val := by decide
  exact this ⟨n, h⟩

theorem isDigit_digitChar (n : Nat) : isDigit (digitChar n) = true := by
  unfold digitChar
  split <;> decide

theorem digitChar_eq_zero_iff {n : Nat} (h : n < 10) : digitChar n = '0' ↔ n = 0 := by
  have : ∀ k : Fin 10, digitChar k.val = '0' ↔ k.val = 0 := by decide
  exact this ⟨n, h⟩

theorem digitVal_zero : digitVal '0' = 0 := by decide

theorem ofDigits_nil : ofDigits [] = 0 := rfl

theorem foldl_digits_acc (a : Nat) (s : Str) :
    s.foldl (fun a c => a * 10 + digitVal c) a = a * 10 ^ s.length + ofDigits s := by
  induction s generalizing a with
  | nil => simp [ofDigits]
  | cons c r ih =>
    unfold ofDigits
    simp only [List.foldl_cons, List.length_cons]
    rw [ih, ih (0 * 10 + digitVal c)]
    simp only [Nat.zero_mul, Nat.zero_add, Nat.pow_succ]
    rw [Nat.add_mul, Nat.mul_assoc, Nat.mul_comm 10, Nat.add_assoc]

theorem ofDigits_append (a b : Str) : ofDigits (a ++ b) = ofDigits a * 10 ^ b.length + ofDigits b := by
  unfold ofDigits
  rw [List.foldl_append]
  exact foldl_digits_acc _ _

theorem ofDigits_singleton (c : Char) : ofDigits [c] = digitVal c := by simp [ofDigits]

theorem ofDigits_cons_zero (s : Str) : ofDigits ('0' :: s) = ofDigits s := by
  have := ofDigits_append ['0'] s
  simpa [ofDigits_singleton, digitVal_zero] using this

theorem ofDigits_replicate_zero (k : Nat) : ofDigits (List.replicate k '0') = 0 := by
  induction k with
  | zero => rfl
  | succ k ih => rw [List.replicate_succ, ofDigits_cons_zero, ih]

theorem ofDigits_dropWhile_zero (s : Str) : ofDigits (s.dropWhile (· == '0')) = ofDigits s := by
  induction s with
  | nil => rfl
  | cons c r ih =>
    rw [List.dropWhile_cons]
    split
    · rename_i h
      have : c = '0' := by simpa using h
      subst this
      rw [ih, ofDigits_cons_zero]
    · rfl

theorem fracDigits_length (k n : Nat) : (fracDigits k n).length = k := by
  induction k generalizing n with
  | zero => rfl
  | succ k ih => simp [fracDigits, ih]

theorem fracDigits_all_digit (k n : Nat) : ∀ c ∈ fracDigits k n, isDigit c = true := by
  induction k generalizing n with
  | zero => simp [fracDigits]
  | succ k ih =>
    intro c hc
    simp only [fracDigits, List.mem_append, List.mem_singleton] at hc
    rcases hc with h | h
    · exact ih _ c h
    · subst h
      exact isDigit_digitChar _

theorem ofDigits_fracDigits (k n : Nat) : ofDigits (fracDigits k n) = n % 10 ^ k := by
  induction k generalizing n with
  | zero => simp [fracDigits, ofDigits, Nat.mod_one]
  | succ k ih =>
    simp only [fracDigits]
    rw [ofDigits_append, ih, ofDigits_singleton, digitVal_digitChar (Nat.mod_lt _ (by omega))]
    simp only [List.length_singleton, Nat.pow_one]
    -- (n/10 % 10^k) * 10 + n % 10 = n % 10^(k+1)
    rw [Nat.pow_succ, Nat.mul_comm (10 ^ k) 10, Nat.mod_mul, Nat.mul_comm, Nat.add_comm]

theorem fracDigits_succ_mul10 (k n : Nat) : fracDigits (k + 1) (n * 10) = fracDigits k n ++ ['0'] := by
  simp [fracDigits, Nat.mul_mod_left, digitChar]

theorem fracDigits_add_mul_pow (k j n : Nat) :
    fracDigits (k + j) (n * 10 ^ j) = fracDigits k n ++ List.replicate j '0' := by
  induction j with
  | zero => simp
  | succ j ih =>
    rw [← Nat.add_assoc, Nat.pow_succ, ← Nat.mul_assoc, fracDigits_succ_mul10, ih,
      List.replicate_succ', List.append_assoc]

theorem take_fracDigits (q j n : Nat) : (fracDigits (q + j) n).take q = fracDigits q (n / 10 ^ j) := by
  induction j generalizing n with
  | zero =>
    simp only [Nat.add_zero, Nat.pow_zero, Nat.div_one]
    exact List.take_of_length_le (by simp [fracDigits_length])
  | succ j ih =>
    rw [← Nat.add_assoc]
    simp only [fracDigits]
    rw [List.take_append_of_le_length (by simp [fracDigits_length]), ih, Nat.div_div_eq_div_mul,
      Nat.pow_succ, Nat.mul_comm]

theorem trimZeros_append_singleton (s : Str) (c : Char) :
    trimZeros (s ++ [c]) = if c = '0' then trimZeros s else s ++ [c] := by
  unfold trimZeros
  by_cases h : c = '0' <;> simp [h]

theorem trimZeros_length_le (s : Str) : (trimZeros s).length ≤ s.length := by
  unfold trimZeros
  have := (List.dropWhile_sublist (fun c : Char => c == '0') (l := s.reverse)).length_le
  simpa using this

theorem mod_pow_of_trimZeros_le {j q n : Nat}
    (h : (trimZeros (fracDigits (q + j) n)).length ≤ q) : n % 10 ^ j = 0 := by
  induction j generalizing n with
  | zero => simp [Nat.mod_one]
  | succ j ih =>
    simp only [fracDigits] at h
    rw [trimZeros_append_singleton] at h
    by_cases h0 : n % 10 = 0
    · rw [if_pos ((digitChar_eq_zero_iff (Nat.mod_lt _ (by omega))).2 h0)] at h
      rw [Nat.pow_succ, Nat.mul_comm, Nat.mod_mul, ih h, h0]
    · rw [if_neg (fun hh => h0 ((digitChar_eq_zero_iff (Nat.mod_lt _ (by omega))).1 hh))] at h
      simp [fracDigits_length] at h
      omega

theorem wholeDigits_all_digit (n : Nat) : ∀ c ∈ wholeDigits n, isDigit c = true := by
  unfold wholeDigits
  simp only
  split
  · intro c hc
    simp at hc
    subst hc
    decide
  · exact fun c hc => fracDigits_all_digit 29 n c ((List.dropWhile_sublist _).subset hc)

theorem wholeDigits_ne_nil (n : Nat) : wholeDigits n ≠ [] := by
  unfold wholeDigits
  simp only
  split
  · simp
  · rename_i h
    simpa using h

theorem ofDigits_wholeDigits {n : Nat} (h : n < 10 ^ 29) : ofDigits (wholeDigits n) = n := by
  unfold wholeDigits
  simp only
  split
  · rename_i he
    have h1 := ofDigits_dropWhile_zero (fracDigits 29 n)
    rw [List.isEmpty_iff.1 he, ofDigits_fracDigits, Nat.mod_eq_of_lt h] at h1
    simp [ofDigits, digitVal_zero, ← h1]
  · rw [ofDigits_dropWhile_zero, ofDigits_fracDigits, Nat.mod_eq_of_lt h]

theorem isDigit_not_ws {c : Char} (h : isDigit c = true) : isWs c = false := by
  unfold isDigit at h
  unfold isWs
  simp only [Bool.and_eq_true, decide_eq_true_eq] at h
  simp only [Bool.or_eq_false_iff, Bool.and_eq_false_iff, decide_eq_false_iff_not, beq_eq_false_iff_ne]
  omega

theorem digitChar_ne_ws (n : Nat) : isWs (digitChar n) = false :=
  isDigit_not_ws (isDigit_digitChar n)

theorem trim_pad_of_ends {a t b : Str} (ha : ∀ c ∈ a, isWs c = true) (hb : ∀ c ∈ b, isWs c = true)
    (h1 : ∀ x, t.head? = some x → isWs x = false) (h2 : ∀ x, t.getLast? = some x → isWs x = false) :
    trim (a ++ t ++ b) = t := by
  have hb' : ∀ c ∈ b.reverse, isWs c = true := fun c hc => hb c (List.mem_reverse.1 hc)
  unfold trim trimStart trimEnd
  rw [List.append_assoc, List.dropWhile_append_of_pos ha]
  cases t with
  | nil =>
    have e : b.dropWhile isWs = [] := by simpa using List.dropWhile_append_of_pos (l₂ := []) hb
    simp [e]
  | cons x r =>
    rw [List.cons_append, List.dropWhile_cons_of_neg (by simp [h1 x rfl]), ← List.cons_append,
      List.reverse_append, List.dropWhile_append_of_pos hb',
      dropWhile_eq_self_of_head isWs _ (fun y hy => h2 y (by rwa [List.head?_reverse] at hy)),
      List.reverse_reverse]

theorem trimEnd_prefix (s : Str) : ∃ b, s = trimEnd s ++ b ∧ ∀ c ∈ b, isWs c = true := by
  refine ⟨(s.reverse.takeWhile isWs).reverse, ?_,
    fun c hc => List.all_eq_true.1 List.all_takeWhile c (List.mem_reverse.1 hc)⟩
  unfold trimEnd
  rw [← List.reverse_append, List.takeWhile_append_dropWhile, List.reverse_reverse]

theorem trim_decomp (s : Str) :
    ∃ a b, s = a ++ trim s ++ b ∧ (∀ c ∈ a, isWs c = true) ∧ (∀ c ∈ b, isWs c = true) := by
  obtain ⟨b, h, hb⟩ := trimEnd_prefix (trimStart s)
  refine ⟨s.takeWhile isWs, b, ?_, List.all_eq_true.1 List.all_takeWhile, hb⟩
  rw [List.append_assoc, trim, ← h]
  exact List.takeWhile_append_dropWhile.symm

theorem trim_head_not_ws (s : Str) : ∀ x, (trim s).head? = some x → isWs x = false := by
  intro x hx
  obtain ⟨b, h, _⟩ := trimEnd_prefix (trimStart s)
  have := List.head?_dropWhile_not isWs s
  rwa [← trimStart, h, List.head?_append, ← trim, hx] at this

theorem trim_last_not_ws (s : Str) : ∀ x, (trim s).getLast? = some x → isWs x = false := by
  intro x hx
  have := List.head?_dropWhile_not isWs (trimStart s).reverse
  rwa [← List.getLast?_reverse, ← trimEnd, ← trim, hx] at this

theorem trim_eq_self (s : Str) (h1 : ∀ x, s.head? = some x → isWs x = false)
    (h2 : ∀ x, s.getLast? = some x → isWs x = false) : trim s = s := by
  simpa using trim_pad_of_ends (a := []) (b := []) (by simp) (by simp) h1 h2

theorem trim_eq_self_of_all (s : Str) (h : ∀ c ∈ s, isWs c = false) : trim s = s :=
  trim_eq_self s (fun x hx => h x (List.mem_of_mem_head? hx))
    (fun x hx => h x (List.mem_of_mem_getLast? hx))

theorem trim_nil : trim [] = [] := rfl

theorem trim_idem (s : Str) : trim (trim s) = trim s :=
  trim_eq_self _ (trim_head_not_ws s) (trim_last_not_ws s)

theorem trim_pad {a t b : Str} (ha : ∀ c ∈ a, isWs c = true) (hb : ∀ c ∈ b, isWs c = true) :
    trim (a ++ t ++ b) = trim t := by
  obtain ⟨a', b', h, ha', hb'⟩ := trim_decomp t
  have e : a ++ t ++ b = (a ++ a') ++ trim t ++ (b' ++ b) := by
    conv => lhs; rw [h]
    simp only [List.append_assoc]
  rw [e]
  exact trim_pad_of_ends (fun c hc => (List.mem_append.1 hc).elim (ha c) (ha' c))
    (fun c hc => (List.mem_append.1 hc).elim (hb' c) (hb c)) (trim_head_not_ws t) (trim_last_not_ws t)

theorem lowerChar_eq_self {c : Char}
    (h : c.toNat < 65 ∨ (90 < c.toNat ∧ c.toNat < 0xC0) ∨ (0x430 ≤ c.toNat ∧ c.toNat < 0x212A) ∨
      0x212B < c.toNat) :
    lowerChar c = [c] := by
  -- every test of `lowerChar` that changes `c` lies outside these ranges, chosen to contain White_Space
  grind [lowerChar]

theorem lowerChar_ws (c : Char) (h : isWs c = true) : lowerChar c = [c] := by
  apply lowerChar_eq_self
  unfold isWs at h
  simp only [Bool.or_eq_true, Bool.and_eq_true, decide_eq_true_eq, beq_iff_eq] at h
  omega

theorem lower_ws (s : Str) (h : ∀ c ∈ s, isWs c = true) : lower s = s := by
  induction s with
  | nil => rfl
  | cons c r ih =>
    unfold lower at ih ⊢
    rw [List.flatMap_cons, lowerChar_ws c (h c (by simp)), ih (fun x hx => h x (by simp [hx]))]
    rfl

theorem lower_append (a b : Str) : lower (a ++ b) = lower a ++ lower b := List.flatMap_append

end Acb.Csv
