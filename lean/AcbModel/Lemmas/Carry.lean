/-
  A row replayed as its carried form (`carryTx`: a sale with the superficial loss that was computed
  for it written into its `superficial loss` cell) gives the same post-status, gain and loss amount
  and generates nothing; so does a stretch of an error-free run, replayed over the carried deltas.
-/
import AcbModel.Lemmas.RunSim
import AcbModel.Lemmas.RunDeltas
namespace Acb

/-- the figures of a carried delta: everything but the row's `superficial loss` cell and the ratio
    recorded with the superficial loss -/
structure DeltaCarry (d d' : Delta) : Prop where
  tx : d'.tx = carryTx d
  pre : d'.pre = d.pre
  post : d'.post = d.post
  gain : d'.gain = d.gain
  sfl : d'.sfl.map (·.loss) = d.sfl.map (·.loss)

/-- an amount the user forced stays forced when it is carried -/
def forceOf : Option (Rat × Bool) → Bool
  | some (_, f) => f
  | none => false

theorem dsiOf_carry {x x' : Tx} {sold loss : Rat} {spec : Option (Rat × Bool)} {msfl : Option SflRatio}
    {info : SflInfo} {adj : List Tx} (h : dsiOf x sold spec loss msfl = .ok (some (info, adj))) :
    dsiOf x' sold (some (info.loss, forceOf spec)) loss msfl =
      .ok (some ({ loss := info.loss, num := (info.loss / loss) * sold, den := sold, over := false }, [])) := by
  rcases spec with _ | ⟨v, fo⟩
  · rw [dsiOf_none, Except.ok.injEq] at h
    obtain ⟨r, -, h⟩ := Option.bind_eq_some_iff.mp h
    obtain ⟨hneg, h⟩ := Option.ite_none_right_eq_some.mp h
    cases h
    -- the computed amount, declared, differs from itself by 0
    rw [dsiOf_some, Rat.sub_self, rabs_zero, if_neg fun h => Rat.not_lt.mpr sflMaxDiff_nonneg h.2, if_pos hneg]
  · rw [dsiOf_some] at h
    by_cases hr : fo = false ∧ rabs (calcSflOf loss msfl - v) > sflMaxDiff
    · rw [if_pos hr] at h
      cases h
    rw [if_neg hr] at h
    split at h <;> cases h
    rw [forceOf, dsiOf_some, if_neg hr, if_pos ‹v < 0›]

/-- `carryTx` in terms of the two things it reads -/
def carryOf (sfl : Option SflInfo) (x : Tx) : Tx :=
  match sfl, x.act with
  | some s, .sell sh px comm rate crate spec => { x with act := .sell sh px comm rate crate (some (s.loss, forceOf spec)) }
  | _, _ => x

theorem carryTx_eq (d : Delta) : carryTx d = carryOf d.sfl d.tx := rfl

theorem carryOf_none (x : Tx) : carryOf none x = x := by
  unfold carryOf
  cases x.act <;> rfl

@[simp] theorem carryOf_aff (sfl : Option SflInfo) (x : Tx) : (carryOf sfl x).aff = x.aff := by
  unfold carryOf
  cases sfl <;> cases x.act <;> rfl

@[simp] theorem carryOf_settle (sfl : Option SflInfo) (x : Tx) : (carryOf sfl x).settle = x.settle := by
  unfold carryOf
  cases sfl <;> cases x.act <;> rfl

@[simp] theorem eraseSpec_carryOf (sfl : Option SflInfo) (x : Tx) : eraseSpec (carryOf sfl x) = eraseSpec x := by
  unfold carryOf
  cases sfl <;> cases hact : x.act <;> simp [eraseSpec, eraseSpecAct, hact]

theorem carryTx_settle (d : Delta) : (carryTx d).settle = d.tx.settle := carryOf_settle d.sfl d.tx

theorem carryTx_erase (d : Delta) : eraseSpec (carryTx d) = eraseSpec d.tx := eraseSpec_carryOf d.sfl d.tx

theorem carryOf_act {sfl : Option SflInfo} {x : Tx} {sh px comm rate : Rat} {crate : Option Rat}
    {spec : Option (Rat × Bool)} (h : (carryOf sfl x).act = .sell sh px comm rate crate spec) :
    ∃ spec', x.act = .sell sh px comm rate crate spec' := by
  unfold carryOf at h
  cases sfl <;> cases hx : x.act <;> simp_all

theorem arm_carry {t : Tracker} {x : Tx} {pre : Status} {past f : List Tx} {o : ArmOut}
    (h : arm t x pre past f = .ok o) :
    ∃ o', arm t (carryOf o.sfl x) pre past f = .ok o' ∧ o'.post = o.post ∧ o'.gain = o.gain ∧
      o'.sfl.map (·.loss) = o.sfl.map (·.loss) ∧ o'.inj = [] := by
  rcases arm_sfl_cases h with ⟨hs, hi⟩ | ⟨sh, px, comm, rate, crate, spec, aps, info, adj, hact, h1, h2, hp, hg, hd, rfl⟩
  · -- without a superficial loss the carried row is the row itself
    rw [hs, carryOf_none]
    exact ⟨o, h, rfl, rfl, by rw [hs], hi⟩
  rw [deltaSflInfo_eq] at hd
  obtain ⟨msfl, hr, hd⟩ := Except.bind_eq_ok_iff.mp hd
  have hx : (carryOf (some info) x).act = .sell sh px comm rate crate (some (info.loss, forceOf spec)) := by
    unfold carryOf
    simp only [hact]
  -- the carried row declares `info.loss`, and `dsiOf` returns what is declared
  refine ⟨sellOut pre (.sell sh px comm rate crate (some (info.loss, forceOf spec)))
    (px * sh * rate - comm * commRate rate crate - aps * sh)
    (some ({ loss := info.loss, num := info.loss / (px * sh * rate - comm * commRate rate crate - aps * sh) * sh,
             den := sh, over := false }, [])), ?_, rfl, rfl, rfl, rfl⟩
  show arm t (carryOf (some info) x) pre past f = _
  rw [arm_sell hx, armSell_loss h1 h2 hp hg, deltaSflInfo_eq, carryOf_aff, carryOf_settle, hr]
  simp only [Except.bind, dsiOf_carry hd, Except.map]

theorem IsLossSale_carry {t : Tracker} {x : Tx} (sfl : Option SflInfo) :
    IsLossSale t (carryOf sfl x) → IsLossSale t x := by
  rintro ⟨sh, px, comm, rate, crate, spec, aps, hact, hp, hg⟩
  obtain ⟨spec', hx⟩ := carryOf_act hact
  exact ⟨sh, px, comm, rate, crate, spec', aps, hx, carryOf_aff sfl x ▸ hp, hg⟩

theorem FarFor_carry {P : List Tx} {x : Tx} (sfl : Option SflInfo) (h : FarFor P x) : FarFor P (carryOf sfl x) := by
  intro sh px comm rate crate spec hact
  obtain ⟨spec', hx⟩ := carryOf_act hact
  rw [carryOf_settle]
  exact h sh px comm rate crate spec' hx

theorem stepRow_carry {t t' : Tracker} (h : ObsEq t t') (x : Tx) {X X' : List Tx} (P P' : List Tx)
    {f f' : List Tx} (hX : PastSim X X') (hf : FutSim f f')
    (hfar : IsLossSale t x → FarFor P x ∧ FarFor P' x)
    {d : Delta} {t2 : Tracker} {inj : List Tx} (hs : stepRow t x (X ++ P) f = .ok (d, t2, inj)) :
    ∃ d' t2', stepRow t' (carryTx d) (X' ++ P') f' = .ok (d', t2', []) ∧ DeltaCarry d d' ∧ ObsEq t2 t2' := by
  obtain ⟨h1, o, ho, hset, rfl, rfl⟩ := stepRow_ok_iff.mp hs
  obtain ⟨o', ho', hp1, hp2, hp3, hp4⟩ := arm_carry ho
  -- first in the place of the row, in the same run
  have hs' : stepRow t (carryOf o.sfl x) (X ++ P) f =
      .ok (⟨carryOf o.sfl x, t.nextPre x.aff, o'.post, o'.gain, o'.sfl⟩, t2, []) :=
    stepRow_ok_iff.mpr ⟨by rw [carryOf_aff]; exact h1, o', by rw [carryOf_aff]; exact ho',
      by rw [carryOf_aff, hp1]; exact hset, by rw [carryOf_aff], hp4.symm⟩
  obtain ⟨t2', hs'', hobs⟩ := (stepRow_sim h _ P P' hX hf fun hl =>
    (hfar (IsLossSale_carry _ hl)).imp (FarFor_carry _) (FarFor_carry _)).1 _ _ _ hs'
  exact ⟨_, t2', hs'', ⟨rfl, rfl, hp1, hp2, hp3⟩, hobs⟩

theorem ExtOf.carry_sorted {q r : List Tx} {ext : List Delta} (h : ExtOf q ext) (hs : SettleAsc (q ++ r)) :
    SettleAsc (ext.map carryTx ++ r) := by
  obtain ⟨hq, hr, hqr⟩ := List.pairwise_append.mp hs
  refine List.pairwise_append.mpr ⟨?_, hr, fun a ha b hb => ?_⟩
  · rw [List.pairwise_map]
    exact (h.sorted hq).imp fun hab => by rw [carryTx_settle, carryTx_settle]; exact hab
  · obtain ⟨d, hd, rfl⟩ := List.mem_map.mp ha
    obtain ⟨y, hy, hyd⟩ := List.mem_map.mp (h.dated d hd)
    rw [carryTx_settle, ← hyd]
    exact hqr y hy b hb

theorem Runs.core_carryTx {r : List Tx} {t t2 : Tracker} {past past2 p : List Tx} {ds : List Delta}
    (h : Runs r t past p ds (.inl (t2, past2))) : core (ds.map carryTx) = core p := by
  generalize he : (Sum.inl (t2, past2) : RunEnd) = e at h
  induction h with
  | done => rfl
  | fail => cases he
  | step hs _ ih =>
    refine core_cons_erase (by rw [carryTx_erase, stepRow_tx hs]) ?_
    rw [ih he, core_append, core_sfla_rows (stepRow_inj hs), List.nil_append]

inductive DeltasCarry : List Delta → List Delta → Prop
  | nil : DeltasCarry [] []
  | cons {d d' : Delta} {l l' : List Delta} : DeltaCarry d d' → DeltasCarry l l' → DeltasCarry (d :: l) (d' :: l')

theorem DeltasCarry.append {a a' b b' : List Delta} (h1 : DeltasCarry a a') (h2 : DeltasCarry b b') :
    DeltasCarry (a ++ b) (a' ++ b') := by
  induction h1 with
  | nil => exact h2
  | cons hd _ ih => exact DeltasCarry.cons hd ih

theorem Runs.carry {P P' r r' : List Tx} (hcore : core r = core r')
    {t t2 : Tracker} {X past2 p : List Tx} {ds : List Delta} (h : Runs r t (X ++ P) p ds (.inl (t2, past2)))
    {t' : Tracker} {X' : List Tx} (hobs : ObsEq t t') (hX : PastSim X X')
    (hasc : SettleAsc (p ++ r)) (hasc' : SettleAsc (ds.map carryTx ++ r'))
    (hfar : ∀ d ∈ ds, d.isLossOrSfl = true → FarFor P d.tx ∧ FarFor P' d.tx) :
    ∃ t2' X2 X2' ds', Runs r' t' (X' ++ P') (ds.map carryTx) ds' (.inl (t2', X2' ++ P')) ∧
      past2 = X2 ++ P ∧ ObsEq t2 t2' ∧ PastSim X2 X2' ∧ DeltasCarry ds ds' := by
  generalize he : (Sum.inl (t2, past2) : RunEnd) = e at h
  generalize hp : X ++ P = past at h
  induction h generalizing t' X X' with
  | done =>
    cases he
    exact ⟨t', X, X', [], .done, hp.symm, hobs, hX, .nil⟩
  | fail => cases he
  | @step t past x p d t1 inj ds e hs hr ih =>
    subst hp he
    have hasc1 : SettleAsc ((inj ++ p) ++ r) := by
      rw [List.append_assoc]
      exact settleAsc_inj hasc (stepRow_inj_settle hs)
    have hf : FutSim (p ++ r) (ds.map carryTx ++ r') :=
      .of_core hasc.tail hasc'.tail (by
        rw [core_append, core_append, hr.core_carryTx, core_append, core_sfla_rows (stepRow_inj hs), hcore]
        rfl)
    obtain ⟨d', t1', hs', hdc, hobs1⟩ := stepRow_carry hobs x P P' hX hf
      (fun hl => stepRow_tx hs ▸ hfar d (by simp) (stepRow_flag hs hl)) hs
    obtain ⟨t2', X2, X2', ds', hr', hp2, hobs2, hX2, hdcs⟩ := ih hobs1
      (hX.cons (by rw [carryTx_erase, stepRow_tx hs])) hasc1 hasc'.tail
      (fun e he hfl => hfar e (by simp [he]) hfl) rfl rfl
    exact ⟨t2', X2, X2', d' :: ds', .step hs' hr', hp2, hobs2, hX2, .cons hdc hdcs⟩

theorem carry_sim (P P' : List Tx) :
    ∀ (q r : List Tx) (t t' : Tracker) (X X' : List Tx) (acc acc' : List Delta) (r' : List Tx)
      (t2 : Tracker) (past2 : List Tx) (acc2 : List Delta),
      ObsEq t t' → PastSim X X' →
      loopPrefix t (X ++ P) acc q r = .inl (t2, past2, acc2) →
      ∀ ext, acc2 = acc ++ ext →
      SettleAsc (q ++ r) → SettleAsc (ext.map carryTx ++ r') → core r = core r' →
      (∀ d ∈ ext, d.isLossOrSfl = true → FarFor P d.tx ∧ FarFor P' d.tx) →
      ∃ t2' X2 X2' ext', loopPrefix t' (X' ++ P') acc' (ext.map carryTx) r' = .inl (t2', X2' ++ P', acc' ++ ext') ∧
        past2 = X2 ++ P ∧ ObsEq t2 t2' ∧ PastSim X2 X2' ∧ DeltasCarry ext ext' := by
  intro q r t t' X X' acc acc' r' t2 past2 acc2 h hX hl ext he hasc hasc' hcore hfar
  obtain ⟨ds, hr, rfl⟩ := loopPrefix_inl hl
  cases List.append_cancel_left he
  obtain ⟨t2', X2, X2', ds', hr', h1, h2, h3, h4⟩ := hr.carry hcore h hX hasc hasc' hfar
  exact ⟨t2', X2, X2', ds', hr'.loopPrefix acc', h1, h2, h3, h4⟩

end Acb
