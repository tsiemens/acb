/-
  Decimal text round trip (C11): `Decimal::from_str (to_string_min_precision d p)` is `d` again
  (as a value, with the sign bit), and the text depends on the value only.
-/
import AcbModel.App.CsvCodec
import AcbModel.Lemmas.CsvText
namespace Acb.Csv

theorem stripSign_digit (w : Char) (r : Str) (hw : isDigit w = true) :
    stripSign (w :: r) = (false, w :: r) := by
  have hw1 : w ≠ '-' := by
    intro h
    subst h
    revert hw
    decide
  have hw2 : w ≠ '+' := by
    intro h
    subst h
    revert hw
    decide
  unfold stripSign
  split
  · rename_i heq
    simp at heq
    exact absurd heq.1 hw1
  · rename_i heq
    simp at heq
    exact absurd heq.1 hw2
  · rfl

theorem parseUnsigned_shape (neg : Bool) (W F : Str) (hW : W ≠ [])
    (hWd : ∀ c ∈ W, isDigit c = true) (hFd : ∀ c ∈ F, isDigit c = true) :
    parseUnsigned neg (W ++ (if F = [] then [] else '.' :: F)) =
      some ⟨neg, ofDigits (W ++ F), F.length⟩ := by
  unfold parseUnsigned
  rw [List.takeWhile_append_of_pos hWd, List.dropWhile_append_of_pos hWd]
  have hdot : isDigit '.' = false := by decide
  by_cases hF : F = []
  · subst hF
    simp [hW]
  · simp [hF, hdot, List.all_eq_true.2 hFd]

theorem parseDecRaw_shape (neg : Bool) (W F : Str) (hW : W ≠ [])
    (hWd : ∀ c ∈ W, isDigit c = true) (hFd : ∀ c ∈ F, isDigit c = true) :
    parseDecRaw ((if neg then ['-'] else []) ++ W ++ (if F = [] then [] else '.' :: F))
      = some ⟨neg, ofDigits (W ++ F), F.length⟩ := by
  unfold parseDecRaw
  cases neg
  · obtain ⟨w, W', rfl⟩ := List.exists_cons_of_ne_nil hW
    simp only [Bool.false_eq_true, if_false, List.nil_append, List.cons_append]
    rw [stripSign_digit w _ (hWd w (by simp))]
    exact parseUnsigned_shape false (w :: W') F hW hWd hFd
  · simp only [if_true, List.cons_append, List.nil_append]
    show parseUnsigned true (W ++ _) = _
    exact parseUnsigned_shape true W F hW hWd hFd

theorem normGo_mul_pow (neg : Bool) (m s k : Nat) :
    normGo neg (s + k) (m * 10 ^ k) = normGo neg s m := by
  induction k with
  | zero => simp
  | succ k ih =>
    rw [← Nat.add_assoc, Nat.pow_succ, ← Nat.mul_assoc]
    simp only [normGo, Nat.mul_mod_left, if_true, Nat.mul_div_cancel _ (by omega : 0 < 10)]
    exact ih

theorem Dec.trimmedPrecision_le (d : Dec) : d.trimmedPrecision ≤ d.scale := by
  unfold Dec.trimmedPrecision
  have := trimZeros_length_le (fracDigits d.scale d.mant)
  rwa [fracDigits_length] at this

theorem pow2_96_lt : pow2_96 < 10 ^ 29 := by decide

/-- The fractional digits shown at precision `q`. -/
def shownFrac (d : Dec) (q : Nat) : Str := (fracDigits d.scale d.mant ++ List.replicate q '0').take q

theorem shownFrac_length (d : Dec) (q : Nat) : (shownFrac d q).length = q := by
  simp [shownFrac, fracDigits_length]

theorem shownFrac_ne_nil (d : Dec) {q : Nat} (hq : q ≠ 0) : shownFrac d q ≠ [] :=
  fun h => hq (by rw [← shownFrac_length d q, h]; rfl)

theorem shownFrac_all_digit (d : Dec) (q : Nat) : ∀ c ∈ shownFrac d q, isDigit c = true := by
  intro c hc
  have := List.mem_of_mem_take hc
  simp only [List.mem_append, List.mem_replicate] at this
  rcases this with h | ⟨_, h⟩
  · exact fracDigits_all_digit _ _ c h
  · subst h
    decide

theorem display_some (d : Dec) (q : Nat) :
    d.display (some q) = (if d.neg then ['-'] else []) ++ wholeDigits (d.mant / 10 ^ d.scale) ++
      (if shownFrac d q = [] then [] else '.' :: shownFrac d q) := by
  unfold Dec.display
  by_cases hq : q = 0
  · subst hq
    simp [shownFrac]
  · simp [hq, shownFrac]

theorem display_eq_some (d : Dec) (q : Option Nat) : d.display q = d.display (some (q.getD d.scale)) := by
  cases q <;> rfl

theorem toStringMinPrecision_eq_display (d : Dec) (p : Nat) :
    d.toStringMinPrecision p = d.display (some (max d.trimmedPrecision p)) := rfl

theorem parseDecRaw_display (d : Dec) (q : Nat) (hm : d.mant < pow2_96) :
    parseDecRaw (d.display (some q)) =
      some ⟨d.neg, d.mant / 10 ^ d.scale * 10 ^ q + ofDigits (shownFrac d q), q⟩ := by
  rw [display_some, parseDecRaw_shape d.neg _ _ (wholeDigits_ne_nil _) (wholeDigits_all_digit _)
    (shownFrac_all_digit d q)]
  have hlt : d.mant / 10 ^ d.scale < 10 ^ 29 :=
    Nat.lt_of_le_of_lt (Nat.div_le_self _ _) (Nat.lt_trans hm pow2_96_lt)
  rw [ofDigits_append, ofDigits_wholeDigits hlt, shownFrac_length]

theorem shownValue_of_scale_le (d : Dec) (q : Nat) (h : d.scale ≤ q) :
    d.mant / 10 ^ d.scale * 10 ^ q + ofDigits (shownFrac d q) = d.mant * 10 ^ (q - d.scale) := by
  obtain ⟨k, rfl⟩ := Nat.exists_eq_add_of_le h
  have : shownFrac d (d.scale + k) = fracDigits d.scale d.mant ++ List.replicate k '0' := by
    unfold shownFrac
    rw [List.take_append, fracDigits_length, List.take_of_length_le (by simp [fracDigits_length])]
    simp
  rw [this, ofDigits_append, ofDigits_fracDigits, ofDigits_replicate_zero]
  simp only [List.length_replicate, Nat.add_zero, Nat.add_sub_cancel_left]
  rw [Nat.pow_add, ← Nat.mul_assoc, ← Nat.add_mul, Nat.mul_comm (d.mant / 10 ^ d.scale), Nat.div_add_mod]

theorem shownValue_of_le_scale (d : Dec) (q j : Nat) (h : d.scale = q + j) :
    d.mant / 10 ^ d.scale * 10 ^ q + ofDigits (shownFrac d q) = d.mant / 10 ^ j := by
  have : shownFrac d q = fracDigits q (d.mant / 10 ^ j) := by
    unfold shownFrac
    rw [List.take_append_of_le_length (by simp [fracDigits_length, h]), h, take_fracDigits]
  rw [this, ofDigits_fracDigits, h, Nat.pow_add, Nat.mul_comm (10 ^ q), ← Nat.div_div_eq_div_mul,
    Nat.mul_comm, Nat.div_add_mod]

theorem Dec.Same.refl (a : Dec) : a.Same a := ⟨rfl, rfl⟩
theorem Dec.Same.symm {a b : Dec} (h : a.Same b) : b.Same a := ⟨h.1.symm, h.2.symm⟩

theorem same_mul_pow (neg : Bool) (m s k : Nat) :
    (Dec.mk neg (m * 10 ^ k) (s + k)).Same (Dec.mk neg m s) := by
  refine ⟨rfl, ?_⟩
  show m * 10 ^ k * 10 ^ s = m * 10 ^ (s + k)
  rw [Nat.mul_assoc, ← Nat.pow_add, Nat.add_comm]

theorem Dec.Same.exists_of_le {a b : Dec} (h : a.Same b) (hle : a.scale ≤ b.scale) :
    ∃ k, b = ⟨a.neg, a.mant * 10 ^ k, a.scale + k⟩ := by
  obtain ⟨an, am, as⟩ := a
  obtain ⟨bn, bm, bs⟩ := b
  obtain ⟨h1, h2⟩ := h
  subst h1
  obtain ⟨k, rfl⟩ := Nat.exists_eq_add_of_le hle
  refine ⟨k, ?_⟩
  have h3 : am * 10 ^ k * 10 ^ as = bm * 10 ^ as := by
    rw [← h2, Nat.pow_add, Nat.mul_assoc, Nat.mul_comm (10 ^ k)]
  rw [Nat.eq_of_mul_eq_mul_right (Nat.pow_pos (by omega)) h3]

theorem Dec.Same.congr {β} {f : Dec → β}
    (hf : ∀ neg m s k, f ⟨neg, m * 10 ^ k, s + k⟩ = f ⟨neg, m, s⟩) {a b : Dec} (h : a.Same b) :
    f a = f b := by
  rcases (Nat.le_total a.scale b.scale).imp h.exists_of_le h.symm.exists_of_le with ⟨k, rfl⟩ | ⟨k, rfl⟩
  · exact (hf _ _ _ _).symm
  · exact hf _ _ _ _

theorem Dec.Same.norm_eq {a b : Dec} (h : a.Same b) : a.norm = b.norm :=
  h.congr (f := Dec.norm) normGo_mul_pow

theorem trimZeros_append_zeros (s : Str) (k : Nat) :
    trimZeros (s ++ List.replicate k '0') = trimZeros s := by
  induction k with
  | zero => simp
  | succ k ih =>
    rw [List.replicate_succ', ← List.append_assoc, trimZeros_append_singleton, if_pos rfl, ih]

theorem shownFrac_mul_pow (neg : Bool) (m s k q : Nat) :
    shownFrac ⟨neg, m * 10 ^ k, s + k⟩ q = shownFrac ⟨neg, m, s⟩ q := by
  unfold shownFrac
  rw [fracDigits_add_mul_pow, List.append_assoc, List.take_append, List.take_append (l₁ := fracDigits s m),
    List.replicate_append_replicate, List.take_replicate, List.take_replicate]
  congr 2
  omega

theorem display_mul_pow (neg : Bool) (m s k q : Nat) :
    (Dec.mk neg (m * 10 ^ k) (s + k)).display (some q) = (Dec.mk neg m s).display (some q) := by
  have hw : m * 10 ^ k / 10 ^ (s + k) = m / 10 ^ s := by
    rw [Nat.pow_add, Nat.mul_comm (10 ^ s), ← Nat.div_div_eq_div_mul,
      Nat.mul_div_cancel _ (Nat.pow_pos (by omega))]
  simp only [display_some, shownFrac_mul_pow, hw]

theorem Dec.Same.toStringMinPrecision_eq {a b : Dec} (h : a.Same b) (p : Nat) :
    a.toStringMinPrecision p = b.toStringMinPrecision p := by
  refine h.congr (f := (·.toStringMinPrecision p)) (fun neg m s k => ?_)
  have : (Dec.mk neg (m * 10 ^ k) (s + k)).trimmedPrecision = (Dec.mk neg m s).trimmedPrecision := by
    unfold Dec.trimmedPrecision
    rw [fracDigits_add_mul_pow, trimZeros_append_zeros]
  rw [toStringMinPrecision_eq_display, toStringMinPrecision_eq_display, this]
  exact display_mul_pow neg m s k _

theorem Dec.Same.display_eq {a b : Dec} (h : a.Same b) (q : Nat) :
    a.display (some q) = b.display (some q) :=
  h.congr (f := (·.display (some q))) (fun neg m s k => display_mul_pow neg m s k q)

theorem Dec.Same.eq_of_scale {a b : Dec} (h : a.Same b) (hs : a.scale = b.scale) : a = b := by
  obtain ⟨an, am, as⟩ := a
  obtain ⟨bn, bm, bs⟩ := b
  obtain ⟨h1, h2⟩ := h
  simp only at h1 h2 hs
  subst h1 hs
  rw [Nat.eq_of_mul_eq_mul_right (Nat.pow_pos (by omega)) h2]

/-- `hz`: `parseDec` drops the sign of a zero. -/
theorem parseDec_of_raw {s : Str} {neg : Bool} {m q : Nat} (hraw : parseDecRaw s = some ⟨neg, m, q⟩)
    (hq : q ≤ 28) (hm : m < pow2_96) (hz : neg = true → m ≠ 0) : parseDec s = .ok ⟨neg, m, q⟩ := by
  have hneg : (neg && (m != 0)) = neg := by
    cases neg
    · rfl
    · simp [hz rfl]
  simp only [parseDec, hraw, hq, hm, and_self, if_true, hneg]

theorem parseDec_display (d : Dec) (q : Nat) (hq : q ≤ 28)
    (hfit : d.mant * 10 ^ (q - d.scale) < pow2_96) (hcut : d.mant % 10 ^ (d.scale - q) = 0)
    (hz : d.neg = true → d.mant ≠ 0) :
    ∃ d', parseDec (d.display (some q)) = .ok d' ∧ d'.Same d ∧ d'.scale = q := by
  obtain ⟨neg, m, s⟩ := d
  have hm : m < pow2_96 := Nat.lt_of_le_of_lt (Nat.le_mul_of_pos_right _ (Nat.pow_pos (by omega))) hfit
  -- the mantissa read back is `m` with zeros appended or removed
  rcases Nat.le_total s q with hle | hle
  · obtain ⟨k, rfl⟩ := Nat.exists_eq_add_of_le hle
    rw [Nat.add_sub_cancel_left] at hfit
    refine ⟨⟨neg, m * 10 ^ k, s + k⟩, parseDec_of_raw ?_ hq hfit (fun hn h => hz hn ?_),
      same_mul_pow neg m s k, rfl⟩
    · rw [parseDecRaw_display _ _ hm, shownValue_of_scale_le _ _ hle, Nat.add_sub_cancel_left]
    · exact (Nat.mul_eq_zero.1 h).resolve_right (Nat.ne_of_gt (Nat.pow_pos (by omega)))
  · obtain ⟨j, rfl⟩ := Nat.exists_eq_add_of_le hle
    rw [Nat.add_sub_cancel_left] at hcut
    have hmant : m / 10 ^ j * 10 ^ j = m := Nat.div_mul_cancel (Nat.dvd_of_mod_eq_zero hcut)
    refine ⟨⟨neg, m / 10 ^ j, q⟩, parseDec_of_raw ?_ hq (Nat.lt_of_le_of_lt (Nat.div_le_self _ _) hm)
      (fun hn h => hz hn ?_), (hmant ▸ same_mul_pow neg (m / 10 ^ j) q j).symm, rfl⟩
    · rw [parseDecRaw_display _ _ hm, shownValue_of_le_scale _ _ j rfl]
    · rw [← hmant, h, Nat.zero_mul]

theorem Dec.mod_pow_of_trimmedPrecision_le (d : Dec) {q : Nat} (h : d.trimmedPrecision ≤ q) :
    d.mant % 10 ^ (d.scale - q) = 0 := by
  rcases Nat.le_total d.scale q with hle | hle
  · simp [Nat.sub_eq_zero_of_le hle, Nat.mod_one]
  · obtain ⟨j, hj⟩ := Nat.exists_eq_add_of_le hle
    rw [hj, Nat.add_sub_cancel_left]
    exact mod_pow_of_trimZeros_le (q := q) (hj ▸ h)

theorem Dec.mod_pow_of_isInteger {d : Dec} (hi : d.isInteger = true) (q : Nat) :
    d.mant % 10 ^ (d.scale - q) = 0 := by
  simp only [Dec.isInteger, beq_iff_eq] at hi
  exact Nat.mod_eq_zero_of_dvd
    (Nat.dvd_trans (Nat.pow_dvd_pow 10 (Nat.sub_le _ _)) (Nat.dvd_of_mod_eq_zero hi))

theorem Dec.isPos_neg {d : Dec} (h : d.isPos = true) : d.neg = false := by
  simp only [Dec.isPos, Bool.and_eq_true, Bool.not_eq_true'] at h
  exact h.1

theorem Dec.renderable_iff {d : Dec} {p : Nat} : d.renderable p = true ↔
    d.scale ≤ 28 ∧ d.mant * 10 ^ (p - d.scale) < pow2_96 ∧ (d.neg = true → d.mant ≠ 0) := by
  simp only [Dec.renderable, Bool.and_eq_true, decide_eq_true_eq, Bool.or_eq_true, Bool.not_eq_true',
    bne_iff_ne, ne_eq, and_assoc]
  cases d.neg <;> simp

theorem Dec.renderable.inRange {d : Dec} {p : Nat} (h : d.renderable p = true) : d.InRange := by
  obtain ⟨hs, hm, _⟩ := Dec.renderable_iff.1 h
  exact ⟨hs, Nat.lt_of_le_of_lt (Nat.le_mul_of_pos_right _ (Nat.pow_pos (by omega))) hm⟩

theorem dec_render_parse (d : Dec) (p : Nat) (hp : p ≤ 28) (h : d.renderable p = true) :
    ∃ d', parseDec (d.toStringMinPrecision p) = .ok d' ∧ d'.Same d := by
  obtain ⟨hs, hr, hz⟩ := Dec.renderable_iff.1 h
  have hT := d.trimmedPrecision_le
  obtain ⟨d', h1, h2, _⟩ := parseDec_display d (max d.trimmedPrecision p) (by omega)
    (Nat.lt_of_le_of_lt (Nat.mul_le_mul_left _ (Nat.pow_le_pow_right (by omega) (by omega))) hr)
    (d.mod_pow_of_trimmedPrecision_le (Nat.le_max_left _ _)) hz
  exact ⟨d', h1, h2⟩

end Acb.Csv
