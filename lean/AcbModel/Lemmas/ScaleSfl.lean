import AcbModel.Lemmas.ScaleScan
import AcbModel.Lemmas.Step
import AcbModel.Lemmas.Sum
namespace Acb

theorem isSflaRow_iff {x : Tx} : IsSflaRow x ↔ IsSfla x := Iff.rfl

structure SliScaled (f : Rat) (i i' : SliInfo) : Prop where
  allEop : i'.allEop = i.allEop * f
  acquired : i'.acquired = i.acquired * f
  buyers : i'.buyers = i.buyers
  active : ∀ a, i'.active a = (i.active a).map (· * f)

def scalePortion (f : Rat) (p : Aff × Rat × Rat) : Aff × Rat × Rat := (p.1, p.2.1 * f, p.2.2 * f)

structure RatioScaled (f : Rat) (r r' : SflRatio) : Prop where
  num : r'.num = r.num * f
  den : r'.den = r.den * f
  portions : r'.portions = r.portions.map (scalePortion f)
  over : r'.over = r.over

def sflInfoScaled (f : Rat) (a b : SflInfo) : Prop :=
  b.loss = a.loss ∧ b.num = a.num * f ∧ b.den = a.den * f ∧ b.over = a.over

theorem sflInfoScaled.loss {f : Rat} {a b : SflInfo} (h : sflInfoScaled f a b) : b.loss = a.loss := h.1

/-- results of `get_delta_superficial_loss_info`: same decision, same amount, same adjustment rows;
    the ratio's share counts scaled -/
abbrev DsiScaled (f : Rat) : Option (SflInfo × List Tx) → Option (SflInfo × List Tx) → Prop :=
  OptRel fun p p' => sflInfoScaled f p.1 p'.1 ∧ p'.2 = p.2

variable {f : Rat}

theorem buyersTotal_scaled {i i' : SliInfo} (h : SliScaled f i i') : buyersTotal i' = buyersTotal i * f := by
  unfold buyersTotal
  rw [h.buyers, ← sumOver_mul_right]
  apply sumOver_congr
  intro a _
  rw [h.active a]
  cases i.active a <;> simp

theorem portionsOf_scaled {active active' : Aff → Option Rat} (tot : Rat)
    (h : ∀ a, active' a = (active a).map (· * f)) (l : List Aff) :
    portionsOf active' (tot * f) l = (portionsOf active tot l).map (List.map (scalePortion f)) := by
  induction l with
  | nil => rfl
  | cons a as ih =>
    unfold portionsOf
    rw [h a, ih]
    cases active a with
    | none => rfl
    | some v => cases portionsOf active tot as <;> rfl

/-- The generated SfLA rows do not depend on the scaling: the per-affiliate shares `n/d` are
    ratios of share counts. -/
theorem adjustRow_scaled (hf0 : f ≠ 0) (tx : Tx) (c : Rat) :
    adjustRow (restateTx f tx) c ∘ scalePortion f = adjustRow tx c := by
  funext p
  simp only [Function.comp, adjustRow, scalePortion, scaled_ratio_eq hf0]
  rfl

/-- the computed loss reads the ratio only through `num / den` -/
theorem calcSflOf_scaled (hf0 : f ≠ 0) (loss : Rat) {m m' : Option SflRatio}
    (h : OptRel (RatioScaled f) m m') : calcSflOf loss m' = calcSflOf loss m := by
  rcases h.cases with ⟨rfl, rfl⟩ | ⟨r, r', rfl, rfl, hr⟩
  · rfl
  · simp only [calcSflOf, hr.num, hr.den, scaled_ratio_eq hf0]

theorem dsiOf_scaled (hf0 : f ≠ 0) (tx : Tx) (sold : Rat) (spec : Option (Rat × Bool)) (loss : Rat)
    {m m' : Option SflRatio} (h : OptRel (RatioScaled f) m m') :
    ExceptRel (DsiScaled f) (dsiOf tx sold spec loss m) (dsiOf (restateTx f tx) (sold * f) spec loss m') := by
  simp only [dsiOf, calcSflOf_scaled hf0 loss h]
  cases spec with
  | some p =>
    exact exceptRel_ite (fun _ => rfl) fun _ =>
      exceptRel_ite (fun _ => ⟨⟨rfl, (Rat.mul_assoc ..).symm, rfl, rfl⟩, rfl⟩) fun _ => trivial
  | none =>
    rcases h.cases with ⟨rfl, rfl⟩ | ⟨r, r', rfl, rfl, hr⟩
    · trivial
    · simp only
      split
      · trivial
      · refine ⟨⟨rfl, hr.num, hr.den, hr.over⟩, ?_⟩
        simp only [hr.portions, sortByKey_map (g := scalePortion f) fun _ => rfl, List.filterMap_map, adjustRow_scaled hf0]

variable (hf : 0 < f)
include hf

theorem calcRatio_scaled {sold : Rat} {i i' : SliInfo} (h : SliScaled f i i') :
    ExceptRel (RatioScaled f) (calcRatio sold i) (calcRatio (sold * f) i') := by
  have hnum : min3 (sold * f) i'.acquired i'.allEop = min3 sold i.acquired i.allEop * f := by
    rw [h.acquired, h.allEop, min3_scale hf]
  unfold calcRatio
  simp only [h.buyers, buyersTotal_scaled h, hnum, Rat.mul_pos_iff_of_pos_right hf, Rat.mul_lt_mul_right hf]
  refine exceptRel_ite (fun _ => rfl) fun _ => ?_
  by_cases htot : 0 < buyersTotal i
  · simp only [htot, if_true, portionsOf_scaled _ h.active]
    cases portionsOf i.active (buyersTotal i) i.buyers with
    | error e => rfl
    | ok r => exact ⟨rfl, rfl, rfl, rfl⟩
  · simp only [htot, if_false]
    exact ⟨rfl, rfl, rfl, rfl⟩

theorem sliOf_scaled {s1 s1' s2 s2' : Scan} (h1 : s1'.allEop = s1.allEop * f) (h2 : BwdFinal f s2 s2') :
    OptRel (SliScaled f) (sliOf s1 s2) (sliOf s1' s2') := by
  unfold sliOf
  simp only [h1, h2.acquired, Rat.mul_pos_iff_of_pos_right hf]
  split
  · exact ⟨rfl, rfl, h2.buyers, h2.active⟩
  · trivial

variable {t t' : Tracker} (ht : TrackerScaled f t t')
include ht

theorem sflInfo_scaled (seller : Aff) (settle : Int) (sold : Rat) {past past' future future' : List Tx}
    (hpast : PastScaled f t t' past past') (hfut : Forall2 (RowRel f) future future') :
    ExceptRel (OptRel (SliScaled f)) (sflInfo t seller settle sold past future)
      (sflInfo t' seller settle (sold * f) past' future') := by
  rw [sflInfo_eq, sflInfo_eq]
  simp only [ht.postAll, ht.bal, scale_sub, Rat.mul_neg_iff_of_pos_right hf]
  refine exceptRel_ite (fun _ => rfl) fun _ => exceptRel_ite (fun _ => rfl) fun _ => ?_
  exact (scanFwd_scaled hf ht (settle + Gen.sflWindowAfterDays) hfut (initScan_scaled ht seller sold)).map
    fun s1 s1' hs => sliOf_scaled hf hs.allEop (hpast (settle - Gen.sflWindowBeforeDays) hs)

theorem sflRatio_scaled (seller : Aff) (settle : Int) (sold : Rat)
    {past past' future future' : List Tx}
    (hpast : PastScaled f t t' past past') (hfut : Forall2 (RowRel f) future future') :
    ExceptRel (OptRel (RatioScaled f)) (sflRatio t seller settle sold past future)
      (sflRatio t' seller settle (sold * f) past' future') := by
  rw [sflRatio_eq, sflRatio_eq]
  refine (sflInfo_scaled hf ht seller settle sold hpast hfut).bind fun o o' ho => ?_
  rcases ho.cases with ⟨rfl, rfl⟩ | ⟨i, i', rfl, rfl, hs⟩
  · trivial
  · exact (calcRatio_scaled hf (sold := sold) hs).map fun r r' hr => hr

theorem deltaSflInfo_scaled (tx : Tx) (sold : Rat) (spec : Option (Rat × Bool)) (loss : Rat)
    {past past' future future' : List Tx}
    (hpast : PastScaled f t t' past past') (hfut : Forall2 (RowRel f) future future') :
    ExceptRel (DsiScaled f) (deltaSflInfo t tx sold spec loss past future)
      (deltaSflInfo t' (restateTx f tx) (sold * f) spec loss past' future') := by
  rw [deltaSflInfo_eq, deltaSflInfo_eq]
  exact (sflRatio_scaled hf ht tx.aff tx.settle sold hpast hfut).bind fun m m' hm =>
    dsiOf_scaled (Rat.ne_of_gt hf) tx sold spec loss hm

end Acb
