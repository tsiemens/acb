/-
  The replay of a summary, for any cut of an error-free run into a summarised part, a carried part
  and the later rows such that the windows of the flagged deltas of the last two start after the
  first.  The range selection only has to supply such a cut.
-/
import AcbModel.Lemmas.SummaryRows
import AcbModel.Lemmas.Carry
namespace Acb

theorem Runs.farFor_past {r p past2 : List Tx} {t t2 : Tracker} {ds : List Delta}
    (h : Runs r t [] p ds (.inl (t2, past2))) {x : Tx}
    (hp : ∀ y ∈ p, y.settle < x.settle - Gen.sflWindowBeforeDays) : FarFor past2 x :=
  .of_forall fun y hy => by
    obtain h0 | ⟨z, hz, e⟩ := h.past_dated y hy
    · cases h0
    · exact e ▸ hp z hz

theorem farFor_summaryOfTracker {tP : Tracker} {day : Aff → Int} {As : List Aff} {x : Tx}
    (h : ∀ a ∈ As, day a < x.settle - Gen.sflWindowBeforeDays) : FarFor (summaryOfTracker tP day As).reverse x :=
  .of_forall fun p hp => by
    obtain ⟨a, ha, e⟩ := mem_summaryOfTracker (List.mem_reverse.mp hp)
    exact e ▸ h a ha

theorem summary_at {As : List Aff} (dflt : Aff) {t0 t1 : Tracker} {P q1 r : List Tx}
    {A1 : List Delta} (hw0 : TrackerWFOn As t0) (hrows1 : ∀ x ∈ q1, x.Valid ∧ x.aff ∈ As)
    (hrows2 : ∀ x ∈ r, x.Valid ∧ x.aff ∈ As)
    (h1 : Runs r t0 [] q1 A1 (.inl (t1, P))) (day : Aff → Int) (r' : List Tx) :
    ∃ tS dS, Runs r' (.empty dflt) [] (summaryOfTracker t1 day As) dS
        (.inl (tS, (summaryOfTracker t1 day As).reverse)) ∧ ObsEq t1 tS ∧
      dS.length = (summaryOfTracker t1 day As).length := by
  obtain ⟨hw1, _⟩ := h1.wfOn hrows2 hw0 hrows1 (by simp)
  exact summaryOfTracker_replay hw1.nodup hw1.sumInv hw1.supp hw1.statusesOk day dflt r'

theorem summary_replay_cut {As : List Aff} (dflt : Aff) {t0 t1 tP tE : Tracker}
    {P pastP pastE q1 q2 later : List Tx} {A1 A2 ext : List Delta} (hw0 : TrackerWFOn As t0)
    (hrows : ∀ x ∈ q1 ++ (q2 ++ later), x.Valid ∧ x.aff ∈ As)
    (h1 : Runs (q2 ++ later) t0 [] q1 A1 (.inl (t1, P)))
    (h2 : Runs later t1 P q2 A2 (.inl (tP, pastP)))
    (h3 : Runs [] tP pastP later ext (.inl (tE, pastE)))
    (hasc : SettleAsc (q2 ++ later)) (hasc' : SettleAsc (A2.map carryTx ++ later))
    (day : Aff → Int)
    (hfar : ∀ d ∈ A2 ++ ext, d.isLossOrSfl = true →
      (∀ p ∈ q1, p.settle < d.tx.settle - Gen.sflWindowBeforeDays) ∧
      ∀ a ∈ As, day a < d.tx.settle - Gen.sflWindowBeforeDays) :
    ∃ dS dC, deltaList dflt none (summaryOfTracker t1 day As ++ A2.map carryTx ++ later) =
        (dS ++ dC ++ ext, none) ∧
      dS.length = (summaryOfTracker t1 day As).length ∧ DeltasCarry A2 dC := by
  obtain ⟨hrows1, hrows2⟩ := List.forall_mem_append.mp hrows
  obtain ⟨tS, dS, hS, hobs, hlen⟩ := summary_at dflt hw0 hrows1 hrows2 h1 day (A2.map carryTx ++ later)
  have hfar' : ∀ d ∈ A2 ++ ext, d.isLossOrSfl = true →
      FarFor P d.tx ∧ FarFor (summaryOfTracker t1 day As).reverse d.tx :=
    fun d hd hfl => ⟨h1.farFor_past (hfar d hd hfl).1, farFor_summaryOfTracker (hfar d hd hfl).2⟩
  obtain ⟨t2', X2, X2', dC, hr2, hp2, hobs2, hX2, hdc⟩ :=
    h2.carry (P' := (summaryOfTracker t1 day As).reverse) (r' := later) rfl hobs (X := []) (.refl [])
      hasc hasc' (fun d hd => hfar' d (by simp [hd]))
  subst hp2
  obtain ⟨e', hr3, he'⟩ := h3.flaggedFar rfl (fun d hd => hfar' d (by simp [hd])) hobs2 hX2
  refine ⟨dS, dC, ?_, hlen, hdc⟩
  rw [List.append_assoc, deltaList_of_runs (Tracker.new_none dflt) hS (Runs.append (by simpa using hr2) hr3), he',
    List.append_assoc]

theorem summary_replay_at_cut {dflt : Aff} {pre later : List Tx}
    (hv : ∀ x ∈ pre ++ later, x.Valid)
    (hsorted : SettleAsc (pre ++ later)) {tP tE : Tracker} {pastP pastE : List Tx} {A ext : List Delta}
    (hA : Runs later (.empty dflt) [] pre A (.inl (tP, pastP))) (hE : Runs [] tP pastP later ext (.inl (tE, pastE)))
    (ls : Option Nat) {F : Int} (hc : CutAt A ext (cutOf ls) F) :
    ∃ dS dC, deltaList dflt none (summaryPart (A ++ ext) ls ++ (A.drop (cutOf ls)).map carryTx ++ later) =
          (dS ++ dC ++ ext, none) ∧
      dS.length = (summaryPart (A ++ ext) ls).length ∧ DeltasCarry (A.drop (cutOf ls)) dC := by
  obtain ⟨q1, q2, t1, past1, rfl, h1, h2⟩ := hA.cut (cutOf ls) fun d hd e he =>
    Int.lt_of_lt_of_le (hc.before d hd) (hc.after e he)
  rw [List.append_assoc] at hsorted hv
  have hasc2 : SettleAsc (q2 ++ later) := hsorted.right
  obtain ⟨day, As, hnA, hAs, hsum, hday⟩ :=
    summary_of_state (A1 := A.take (cutOf ls)) (A.drop (cutOf ls) ++ ext) (ls := ls)
      (by rw [List.length_take, Nat.min_eq_left hc.le]) (h1.track (.empty dflt))
      ((q1 ++ (q2 ++ later)).map (·.aff)) hc.before
  rw [← List.append_assoc, List.take_append_drop] at hsum
  rw [← hsum]
  refine summary_replay_cut dflt (.empty hnA dflt) (fun x hx => ⟨hv x hx, hAs _ (List.mem_map_of_mem hx)⟩) h1 h2 hE
    hasc2 (h2.extOf.carry_sorted hasc2) day fun d hd hfl => ?_
  have := hc.flagged d hd hfl
  refine ⟨fun p hp => ?_, fun a _ => by have := hday a; omega⟩
  obtain ⟨e, he, hep⟩ := h1.own p hp
  have := hc.before e he
  rw [hep] at this
  omega

theorem deltaList_split (dflt : Aff) {pre later : List Tx}
    (hok : (deltaList dflt none (pre ++ later)).2 = none) (hne : pre ≠ []) :
    ∃ tP pastP tE pastE A ext, Runs later (.empty dflt) [] pre A (.inl (tP, pastP)) ∧
      Runs [] tP pastP later ext (.inl (tE, pastE)) ∧ (deltaList dflt none (pre ++ later)).1 = A ++ ext := by
  rcases deltaList_runs dflt none (txs := pre ++ later) (by simp [hne]) with ⟨f, hf, _⟩ | ⟨t, ds, e, ht, hr, he⟩
  · cases hf
  · cases ht
    rw [he] at hok ⊢
    cases e with
    | inr f => cases hok
    | inl s =>
      obtain ⟨A, ext, tP, pastP, rfl, hA, hE⟩ := hr.split
      rw [List.append_nil] at hA
      exact ⟨tP, pastP, s.1, s.2, A, ext, hA, hE, rfl⟩

theorem summary_replay (yearOf jan1 : Int → Int) {dflt : Aff}
    (pre later : List Tx) (latest : Int)
    (hv : ∀ x ∈ pre ++ later, x.Valid) (hsorted : SettleAsc (pre ++ later))
    (hpre : ∀ x ∈ pre, x.settle ≤ latest) (hlater : ∀ x ∈ later, latest < x.settle) (hne : pre ≠ [])
    (hok : (deltaList dflt none (pre ++ later)).2 = none) (r : SummaryRange)
    (hr : summaryRange latest (deltaList dflt none (pre ++ later)).1 = some r) :
    ∃ dS dC,
      deltaList dflt none
          (makeSummaryTxs yearOf jan1 latest false (deltaList dflt none (pre ++ later)).1 ++ later) =
        (dS ++ dC ++ (deltaList dflt none (pre ++ later)).1.drop (r.lastInRange + 1), none) ∧
      dS.length = (summaryPart (deltaList dflt none (pre ++ later)).1 r.lastSummarizable).length ∧
      DeltasCarry (((deltaList dflt none (pre ++ later)).1.take (r.lastInRange + 1)).drop
        (cutOf r.lastSummarizable)) dC := by
  obtain ⟨tP, pastP, tE, pastE, A, ext, hA, hE, hds⟩ := deltaList_split dflt hok hne
  rw [hds] at hr ⊢
  have hneA : A ≠ [] := by
    obtain ⟨x, hx⟩ := List.exists_mem_of_ne_nil pre hne
    obtain ⟨d, hd, _⟩ := hA.own x hx
    exact List.ne_nil_of_mem hd
  obtain ⟨hrl, F, hc⟩ := summaryRange_cut latest
    (fun d hd => let ⟨x, hx, hxe⟩ := hA.dated d hd; hxe ▸ hpre x hx)
    (fun d hd => let ⟨x, hx, hxe⟩ := hE.dated d hd; hxe ▸ hlater x hx) hneA
    (hA.sorted hsorted.left) (hE.sorted hsorted.right) hr
  rw [makeSummaryTxs_eq yearOf jan1 latest hr, hrl, List.take_left, List.drop_left]
  exact summary_replay_at_cut hv hsorted hA hE _ hc

end Acb
