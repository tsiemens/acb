/-
  The status tracker through what `delta_for_tx` and the window scans read of it (`bal`, `latestAll`,
  `acbOf`, `latestPostAll`); `setLatest` is `put` behind two assertions.
-/
import AcbModel.Ledger.Tracker
import AcbModel.Lemmas.Lists
import AcbModel.Lemmas.Rats
namespace Acb

theorem upd_apply {β : Type} (f : Aff → β) (a : Aff) (v : β) (x : Aff) :
    upd f a v x = if x = a then v else f x := rfl

@[simp] theorem upd_same {β : Type} (f : Aff → β) (a : Aff) (v : β) : upd f a v a = v := if_pos rfl

theorem upd_of_ne {β : Type} (f : Aff → β) (v : β) {a x : Aff} (h : x ≠ a) : upd f a v x = f x := if_neg h

/-- The cost base `get_next_pre_status` reports for an affiliate. -/
def Tracker.acbOf (t : Tracker) (a : Aff) : Option Rat := ((t.m a).getD (defaultStatus a)).acb

/-- The tracker after `set_latest_post_status` has stored `v` for `a`. -/
def Tracker.put (t : Tracker) (a : Aff) (v : Status) : Tracker :=
  { m := upd t.m a (some v), latestAll := v.all, latestAff := a }

theorem nextPre_eq (t : Tracker) (a : Aff) :
    t.nextPre a = { shares := t.bal a, all := t.latestAll, acb := t.acbOf a } := by
  unfold Tracker.nextPre Tracker.bal Tracker.acbOf
  cases t.m a with
  | none => simp only [Option.getD_none]; split <;> simp_all [defaultStatus]
  | some s => cases s; simp only [Option.getD_some]; split <;> simp_all

theorem nextPre_shares (t : Tracker) (a : Aff) : (t.nextPre a).shares = t.bal a := by
  rw [nextPre_eq]

theorem nextPre_all (t : Tracker) (a : Aff) : (t.nextPre a).all = t.latestAll := by
  rw [nextPre_eq]

theorem nextPre_acb (t : Tracker) (a : Aff) : (t.nextPre a).acb = t.acbOf a := by
  rw [nextPre_eq]

theorem setLatest_eq (t : Tracker) (a : Aff) (v : Status) :
    t.setLatest a v =
      if a.registered = v.acb.isNone then
        if v.all = v.shares + t.latestAll - t.bal a then .ok (t.put a v)
        else .error (.panic .trackerAllAssert)
      else .error (.panic .trackerAcbAssert) := rfl

theorem setLatest_ok_iff {t t' : Tracker} {a : Aff} {v : Status} :
    t.setLatest a v = .ok t' ↔
      a.registered = v.acb.isNone ∧ v.all = v.shares + t.latestAll - t.bal a ∧ t' = t.put a v := by
  rw [setLatest_eq]
  split
  · split <;> simp_all [eq_comm]
  · simp_all

@[simp] theorem put_m (t : Tracker) (a : Aff) (v : Status) : (t.put a v).m = upd t.m a (some v) := rfl

@[simp] theorem put_latestAll (t : Tracker) (a : Aff) (v : Status) : (t.put a v).latestAll = v.all := rfl

@[simp] theorem put_latestPostAll (t : Tracker) (a : Aff) (v : Status) :
    (t.put a v).latestPostAll = v.all := by
  simp [Tracker.latestPostAll, Tracker.put, upd]

@[simp] theorem put_bal (t : Tracker) (a : Aff) (v : Status) (x : Aff) :
    (t.put a v).bal x = if x = a then v.shares else t.bal x := by
  unfold Tracker.bal Tracker.put upd; by_cases h : x = a <;> simp [h]

@[simp] theorem put_acbOf (t : Tracker) (a : Aff) (v : Status) (x : Aff) :
    (t.put a v).acbOf x = if x = a then v.acb else t.acbOf x := by
  unfold Tracker.acbOf Tracker.put upd; by_cases h : x = a <;> simp [h]

/-- The tracker before any row and without an opening position. -/
def Tracker.empty (dflt : Aff) : Tracker := { m := fun _ => none, latestAll := 0, latestAff := dflt }

@[simp] theorem Tracker.empty_m (d a : Aff) : (Tracker.empty d).m a = none := rfl

@[simp] theorem Tracker.empty_latestAll (d : Aff) : (Tracker.empty d).latestAll = 0 := rfl

@[simp] theorem Tracker.empty_bal (d a : Aff) : (Tracker.empty d).bal a = 0 := rfl

theorem Tracker.new_none (dflt : Aff) : Tracker.new dflt none = .ok (.empty dflt) := rfl

theorem Tracker.new_some (dflt : Aff) (st : Status) :
    Tracker.new dflt (some st) =
      if st.shares = st.all then (Tracker.empty dflt).setLatest dflt st
      else .error (.panic .initAssert) := rfl

theorem Tracker.new_some_ok_iff {dflt : Aff} {st : Status} {t : Tracker} :
    Tracker.new dflt (some st) = .ok t ↔
      st.shares = st.all ∧ dflt.registered = st.acb.isNone ∧ t = (Tracker.empty dflt).put dflt st := by
  rw [Tracker.new_some]
  by_cases h : st.shares = st.all
  · simp [h, setLatest_ok_iff, Rat.add_zero, rat_sub_zero]
  · simp [h]

theorem bal_of_none {t : Tracker} {a : Aff} (h : t.m a = none) : t.bal a = 0 := by
  simp [Tracker.bal, h]

theorem bal_of_some {t : Tracker} {a : Aff} {s : Status} (h : t.m a = some s) : t.bal a = s.shares := by
  simp [Tracker.bal, h]

theorem acbOf_of_some {t : Tracker} {a : Aff} {s : Status} (h : t.m a = some s) : t.acbOf a = s.acb := by
  simp [Tracker.acbOf, h]

theorem acbOf_of_none {t : Tracker} {a : Aff} (h : t.m a = none) :
    t.acbOf a = (defaultStatus a).acb := by
  simp [Tracker.acbOf, h]

end Acb
