/-
  `Action.Valid` as a Boolean, so that the guard can be evaluated on concrete rows: the `Decidable`
  instance of Ledger/Valid.lean is built by `simp` and does not reduce.
-/
import AcbModel.Ledger.Valid
namespace Acb

def optPosB : Option Rat → Bool
  | none => true
  | some r => decide (0 < r)

def Action.validB : Action → Bool
  | .buy sh px comm rate crate =>
    decide (0 < sh) && (decide (0 ≤ px) && (decide (0 ≤ comm) && (decide (0 < rate) && optPosB crate)))
  | .sell sh px comm rate crate sfl =>
    decide (0 < sh) && (decide (0 ≤ px) && (decide (0 ≤ comm) && (decide (0 < rate) && (optPosB crate &&
      match sfl with
      | some (v, _) => decide (v ≤ 0)
      | none => true))))
  | .roc ps rate => decide (0 ≤ ps) && decide (0 < rate)
  | .sfla sh ps => decide (0 < sh) && decide (0 < ps)
  | .split post pre _ => decide (0 < post) && decide (0 < pre)

theorem optPosB_iff {o : Option Rat} : optPosB o = true ↔ optPos o := by
  cases o <;> simp [optPosB, optPos]

theorem Action.validB_iff {a : Action} : a.validB = true ↔ a.Valid := by
  cases a with
  | sell sh px comm rate crate sfl => cases sfl <;> simp [Action.validB, Action.Valid, optPosB_iff]
  | _ => simp [Action.validB, Action.Valid, optPosB_iff]

theorem Tx.valid_of_validB {t : Tx} (h : t.act.validB = true) : t.Valid := Action.validB_iff.mp h

theorem forall_valid_of_validB {α : Type} {l : List α} {f : α → Tx} (h : ∀ x ∈ l, (f x).act.validB = true) :
    ∀ x ∈ l, (f x).Valid :=
  fun x hx => Tx.valid_of_validB (h x hx)

end Acb
