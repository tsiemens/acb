/-
  Split-ratio cell round trip (C11): `SplitRatio::parse (ratio.to_string())` restores both numbers
  (as values) and the `reverse_integer_only` flag, and prints the same text again.
-/
import AcbModel.Lemmas.CsvCells
namespace Acb.Csv

def SplitRatio.Same (a b : SplitRatio) : Prop :=
  a.pre.Same b.pre ∧ a.post.Same b.post ∧ a.intOnly = b.intOnly

theorem SplitRatio.Same.pre {a b : SplitRatio} (h : a.Same b) : a.pre.Same b.pre := h.1
theorem SplitRatio.Same.post {a b : SplitRatio} (h : a.Same b) : a.post.Same b.post := h.2.1
theorem SplitRatio.Same.intOnly {a b : SplitRatio} (h : a.Same b) : a.intOnly = b.intOnly := h.2.2

theorem forStr : strOf "-for-" = ['-', 'f', 'o', 'r', '-'] := by decide

theorem hasDotDigit_digits (s : Str) (h : ∀ c ∈ s, isDigit c = true) : hasDotDigit s = false := by
  induction s with
  | nil => rfl
  | cons c r ih =>
    have hc : isDigit c = true := h c (by simp)
    have : (c == '.') = false := by
      rw [beq_eq_false_iff_ne]
      intro hh
      subst hh
      revert hc
      decide
    simp only [hasDotDigit, this, Bool.false_and, Bool.false_or]
    exact ih (fun x hx => h x (by simp [hx]))

theorem hasDotDigit_point (W F : Str) (hF : F ≠ []) (hFd : ∀ c ∈ F, isDigit c = true) :
    hasDotDigit (W ++ '.' :: F) = true := by
  induction W with
  | nil =>
    obtain ⟨f, F', rfl⟩ := List.exists_cons_of_ne_nil hF
    simp [hasDotDigit, hFd f (by simp)]
  | cons w r ih => simp [hasDotDigit, ih]

theorem hasDotDigit_display (d : Dec) (q : Nat) (hn : d.neg = false) :
    hasDotDigit (d.display (some q)) = decide (0 < q) := by
  rw [display_some, hn]
  rcases Nat.eq_zero_or_pos q with rfl | hq
  · simpa [shownFrac] using hasDotDigit_digits _ (wholeDigits_all_digit _)
  · have hF := shownFrac_ne_nil d (Nat.ne_of_gt hq)
    simpa [hF, hq] using hasDotDigit_point _ _ hF (shownFrac_all_digit d q)

theorem for_no_ws {A B : Str} (hA : ∀ c ∈ A, isWs c = false) (hB : ∀ c ∈ B, isWs c = false) :
    ∀ c ∈ A ++ strOf "-for-" ++ B, isWs c = false := by
  simp only [forStr, List.mem_append, List.mem_cons, List.not_mem_nil, or_false]
  rintro c ((h | rfl | rfl | rfl | rfl | rfl) | h) <;> first | exact hA c h | exact hB c h | decide

theorem parseSplit_shape (A B : Str) (hA : A ≠ []) (hB : B ≠ [])
    (hAc : ∀ c ∈ A, isDigitOrDot c = true) (hBc : ∀ c ∈ B, isDigitOrDot c = true)
    {post pre : Dec} (hpA : parseDec A = .ok post) (hpB : parseDec B = .ok pre) :
    parseSplit (A ++ strOf "-for-" ++ B) =
      if post.isPos && pre.isPos then
        some (if post.absLt pre then ⟨pre, post, !hasDotDigit A && !hasDotDigit B⟩
          else ⟨pre, post, false⟩)
      else none := by
  unfold parseSplit
  simp only [trim_eq_self_of_all _
    (for_no_ws (fun c h => isDigitOrDot_not_ws (hAc c h)) (fun c h => isDigitOrDot_not_ws (hBc c h)))]
  rw [forStr, List.append_assoc, List.takeWhile_append_of_pos hAc, List.dropWhile_append_of_pos hAc]
  have hdash : isDigitOrDot '-' = false := by decide
  have hAe : A.isEmpty = false := by simpa using hA
  have hBe : B.isEmpty = false := by simpa using hB
  have hBall : B.all isDigitOrDot = true := List.all_eq_true.2 hBc
  simp only [List.cons_append, List.nil_append, List.takeWhile_cons, List.dropWhile_cons, hdash,
    Bool.false_eq_true, if_false, List.append_nil, hAe, hBe, hBall, hpA, hpB, beq_self_eq_true,
    Bool.true_or, Bool.and_self, Bool.not_false, if_true]
  -- left for `rfl`: the model tests `r0.isReverse` on the ratio it has built, and clears the flag
  -- by a structure update
  rfl

theorem SplitRatio.Same.isReverse_eq {a b : SplitRatio} (h : a.Same b) : a.isReverse = b.isReverse := by
  unfold SplitRatio.isReverse
  exact Dec.Same.absLt_eq h.post h.pre

theorem SplitRatio.display_def (pre post : Dec) (x : Bool) : (SplitRatio.mk pre post x).display =
    if post.isInteger && pre.isInteger then
      if post.absLt pre && !x then post.display (some 1) ++ strOf "-for-" ++ pre.display (some 1)
      else post.display (some 0) ++ strOf "-for-" ++ pre.display (some 0)
    else post.display none ++ strOf "-for-" ++ pre.display none := rfl

theorem isReverse_def (pre post : Dec) (x : Bool) : (SplitRatio.mk pre post x).isReverse = post.absLt pre := rfl

theorem SplitRatio.display_congr_int {pre pre' post post' : Dec} (hpre : pre'.Same pre)
    (hpost : post'.Same post) (io : Bool) (hint : (post.isInteger && pre.isInteger) = true) :
    (SplitRatio.mk pre' post' io).display = (SplitRatio.mk pre post io).display := by
  rw [SplitRatio.display_def, SplitRatio.display_def, hpost.isInteger_eq, hpre.isInteger_eq, hint,
    Dec.Same.absLt_eq hpost hpre, hpost.display_eq 1, hpost.display_eq 0, hpre.display_eq 1,
    hpre.display_eq 0]
  simp only [↓reduceIte]

/-- `reverse_integer_only` is set for a reverse split written without fractions. -/
theorem parseSplit_written {post pre : Dec} (qpost qpre : Nat) (hqpost : qpost ≤ 28) (hqpre : qpre ≤ 28)
    (hpost : post.isPos = true) (hpre : pre.isPos = true)
    (fitPost : post.mant * 10 ^ (qpost - post.scale) < pow2_96)
    (cutPost : post.mant % 10 ^ (post.scale - qpost) = 0)
    (fitPre : pre.mant * 10 ^ (qpre - pre.scale) < pow2_96)
    (cutPre : pre.mant % 10 ^ (pre.scale - qpre) = 0) :
    ∃ pre' post', pre'.Same pre ∧ post'.Same post ∧ pre'.scale = qpre ∧ post'.scale = qpost ∧
      parseSplit (post.display (some qpost) ++ strOf "-for-" ++ pre.display (some qpre)) =
        some ⟨pre', post', post.absLt pre && (decide (qpost = 0) && decide (qpre = 0))⟩ := by
  have hnpre := Dec.isPos_neg hpre
  have hnpost := Dec.isPos_neg hpost
  obtain ⟨post', hpA, hsA, hA⟩ := parseDec_display post qpost hqpost fitPost cutPost (by simp [hnpost])
  obtain ⟨pre', hpB, hsB, hB⟩ := parseDec_display pre qpre hqpre fitPre cutPre (by simp [hnpre])
  refine ⟨pre', post', hsB, hsA, hB, hA, ?_⟩
  rw [parseSplit_shape _ _ (display_ne_nil _ _) (display_ne_nil _ _)
    (display_chars_of_not_neg _ _ hnpost) (display_chars_of_not_neg _ _ hnpre) hpA hpB, hsA.isPos_eq,
    hsB.isPos_eq, hpost, hpre, Dec.Same.absLt_eq hsA hsB, hasDotDigit_display _ _ hnpost,
    hasDotDigit_display _ _ hnpre]
  cases post.absLt pre <;> simp [Nat.pos_iff_ne_zero]

theorem splitratio_display_parse (r : SplitRatio) (h : r.valid = true) :
    ∃ r', parseSplit r.display = some r' ∧ r'.Same r ∧ r'.display = r.display := by
  obtain ⟨pre, post, io⟩ := r
  simp only [SplitRatio.valid, Bool.and_eq_true, Bool.or_eq_true, Bool.not_eq_true', decide_eq_true_eq,
    isReverse_def, and_assoc] at h
  obtain ⟨hposPre, hposPost, hrPre, hrPost, hio, hroom⟩ := h
  obtain ⟨hsPre, hmPre⟩ := Dec.renderable.inRange hrPre
  obtain ⟨hsPost, hmPost⟩ := Dec.renderable.inRange hrPost
  by_cases hint : (post.isInteger && pre.isInteger) = true
  · obtain ⟨hiPost, hiPre⟩ := Bool.and_eq_true_iff.1 hint
    by_cases hform : (post.absLt pre && !io) = true
    · -- N.0-for-M.0
      obtain ⟨hrev, hio0⟩ : post.absLt pre = true ∧ io = false := by simpa using hform
      have hroom' := hroom.resolve_left (by simp [hiPre, hiPost, hrev, hio0])
      have room : ∀ d : Dec, d.mant < pow2_96 → d.mant / 10 ^ d.scale * 10 < pow2_96 →
          d.mant * 10 ^ (1 - d.scale) < pow2_96 := by
        intro d hm hr
        rcases Nat.eq_zero_or_pos d.scale with h | h
        · simpa [h] using hr
        · simpa [Nat.sub_eq_zero_of_le h] using hm
      obtain ⟨pre', post', hsB, hsA, _, _, hparse⟩ :=
        parseSplit_written 1 1 (by omega) (by omega) hposPost hposPre (room post hmPost hroom'.2)
          (Dec.mod_pow_of_isInteger hiPost 1) (room pre hmPre hroom'.1) (Dec.mod_pow_of_isInteger hiPre 1)
      refine ⟨⟨pre', post', io⟩, ?_, ⟨hsB, hsA, rfl⟩, SplitRatio.display_congr_int hsB hsA io hint⟩
      rw [SplitRatio.display_def, if_pos hint, if_pos hform, hparse, hrev, hio0]
      rfl
    · -- N-for-M
      obtain ⟨pre', post', hsB, hsA, _, _, hparse⟩ :=
        parseSplit_written 0 0 (by omega) (by omega) hposPost hposPre (by simpa using hmPost)
          (Dec.mod_pow_of_isInteger hiPost 0) (by simpa using hmPre) (Dec.mod_pow_of_isInteger hiPre 0)
      -- the flag read back, `isReverse`, is the flag written
      have hflag : post.absLt pre = io := by
        cases hi : io
        · -- fractions allowed, yet not written `N.0-for-M.0`: not a reverse split
          simpa [hi] using hform
        · -- integer-only is valid on reverse splits only
          exact (hio.resolve_left (by simp [hi])).1
      simp only [decide_true, Bool.and_true, hflag] at hparse
      refine ⟨⟨pre', post', io⟩, ?_, ⟨hsB, hsA, rfl⟩, SplitRatio.display_congr_int hsB hsA io hint⟩
      rw [SplitRatio.display_def, if_pos hint, if_neg hform]
      exact hparse
  · -- a non-integer ratio: all digits are written, the same representation is read back
    have hio0 : io = false := hio.resolve_right fun h => hint (Bool.and_eq_true_iff.2 ⟨h.2.2, h.2.1⟩)
    have hsc : (decide (post.scale = 0) && decide (pre.scale = 0)) = false :=
      Bool.eq_false_iff.2 fun hs => by
        simp only [Bool.and_eq_true, decide_eq_true_eq] at hs
        exact hint (by simp [Dec.isInteger, hs.1, hs.2, Nat.mod_one])
    obtain ⟨pre', post', hsB, hsA, hB, hA, hparse⟩ :=
      parseSplit_written post.scale pre.scale hsPost hsPre hposPost hposPre (by simpa using hmPost)
        (by simp [Nat.mod_one]) (by simpa using hmPre) (by simp [Nat.mod_one])
    obtain rfl := hsB.eq_of_scale hB
    obtain rfl := hsA.eq_of_scale hA
    rw [hsc, Bool.and_false, ← hio0] at hparse
    refine ⟨_, ?_, ⟨Dec.Same.refl _, Dec.Same.refl _, rfl⟩, rfl⟩
    rw [SplitRatio.display_def, if_neg hint, display_eq_some post', display_eq_some pre']
    exact hparse

theorem SplitRatio.display_shape (r : SplitRatio) :
    ∃ a b : Option Nat, r.display = r.post.display a ++ strOf "-for-" ++ r.pre.display b := by
  unfold SplitRatio.display
  split
  · split <;> exact ⟨_, _, rfl⟩
  · exact ⟨_, _, rfl⟩

theorem display_split_no_ws (r : SplitRatio) : ∀ c ∈ r.display, isWs c = false := by
  obtain ⟨a, b, e⟩ := r.display_shape
  exact e ▸ for_no_ws (display_no_ws _ _) (display_no_ws _ _)

theorem display_split_ne_nil (r : SplitRatio) : r.display ≠ [] := by
  obtain ⟨a, b, e⟩ := r.display_shape
  simp [e, forStr]

end Acb.Csv
