/-
  The `YYYY-MM-DD` date text of the rates file satisfies the laws the C14 theorems need.
-/
import AcbModel.Fx.CacheFile
import AcbModel.Lemmas.FxCivil
namespace Acb.Fx

theorem digitVal_digitChar : ∀ k, k < 10 → digitVal? (digitChar k) = some k := by decide

theorem digitChar_ne_sep : ∀ k, k < 10 → digitChar k ≠ ',' ∧ digitChar k ≠ '\n' := by decide

theorem parseDigits_pad2 (n : Nat) (h : n < 100) : parseDigits (pad2 n) = some n := by
  have a := digitVal_digitChar (n / 10 % 10) (by omega)
  have b := digitVal_digitChar (n % 10) (by omega)
  simp only [parseDigits, pad2, List.foldl_cons, List.foldl_nil, a, b, Option.some.injEq]
  omega

theorem parseDigits_pad4 (n : Nat) (h : n < 10000) : parseDigits (pad4 n) = some n := by
  have a := digitVal_digitChar (n / 1000 % 10) (by omega)
  have b := digitVal_digitChar (n / 100 % 10) (by omega)
  have c := digitVal_digitChar (n / 10 % 10) (by omega)
  have d := digitVal_digitChar (n % 10) (by omega)
  simp only [parseDigits, pad4, List.foldl_cons, List.foldl_nil, a, b, c, d, Option.some.injEq]
  -- Horner's rule; `omega` is much quicker when each digit is cut off the previous quotient
  rw [show n / 100 = n / 10 / 10 by rw [Nat.div_div_eq_div_mul],
    show n / 1000 = n / 10 / 10 / 10 by rw [Nat.div_div_eq_div_mul, Nat.div_div_eq_div_mul]]
  omega

/-- A year has 365 days, one more in a leap year: there is at most one leap day, and none in a 100th
    year that is not a 400th. -/
theorem year_length_le (y : Int) :
    civilYearStart (y + 1) - civilYearStart y ≤ 365 + (if civilLeap y then 1 else 0) := by
  have h4 : y / 4 - (y - 1) / 4 ≤ 1 := by omega
  have h400 : y / 400 - (y - 1) / 400 ≤ y / 100 - (y - 1) / 100 := by omega
  have : civilYearStart (y + 1) - civilYearStart y ≤ 366 := by
    unfold civilYearStart
    omega
  by_cases hl : civilYearStart (y + 1) - civilYearStart y = 366
  · simp [civilLeap, hl]
  · simp only [civilLeap, beq_iff_eq, hl, if_false]
    omega

theorem monthStart_values (leap : Bool) :
    monthStart leap 1 = 0 ∧ monthStart leap 13 = 365 + (if leap then 1 else 0) := by
  cases leap <;> decide

theorem month_length (leap : Bool) (m : Int) (h1 : 1 ≤ m) (h2 : m ≤ 12) :
    monthStart leap (m + 1) - monthStart leap m ≤ 31 := by
  have table : ∀ leap, ∀ k : Nat, k < 12 → monthStart leap (k + 2) - monthStart leap (k + 1) ≤ 31 := by
    decide +kernel
  have := table leap (m - 1).toNat (by omega)
  rwa [show ((m - 1).toNat : Int) + 2 = m + 1 by omega, show ((m - 1).toNat : Int) + 1 = m by omega] at this

/-- Linear search in a table.  `monthOf` is such a search written out (`monthOf_eq`); reasoning about
    it through `split` is exponential in the depth of the chain of tests. -/
def firstPast (t : Int → Int) (x : Int) : Nat → Int → Int
  | 0, k => k
  | n + 1, k => if x < t (k + 1) then k else firstPast t x n (k + 1)

theorem firstPast_spec (t : Int → Int) (x : Int) (n : Nat) (k : Int) (lo : t k ≤ x) (hi : x < t (k + n + 1)) :
    k ≤ firstPast t x n k ∧ firstPast t x n k ≤ k + n ∧
    t (firstPast t x n k) ≤ x ∧ x < t (firstPast t x n k + 1) := by
  induction n generalizing k with
  | zero => simpa [firstPast, lo] using hi
  | succ n ih =>
    unfold firstPast
    split
    next h => exact ⟨by omega, by omega, lo, h⟩
    next =>
      have e : k + 1 + n + 1 = k + (n + 1 : Nat) + 1 := by omega
      have := ih (k + 1) (by omega) (e ▸ hi)
      omega

theorem monthOf_eq (leap : Bool) (doy : Int) : monthOf leap doy = firstPast (monthStart leap) doy 11 1 := rfl

theorem monthOf_spec (leap : Bool) (doy : Int) (h0 : 0 ≤ doy) (h1 : doy < 365 + (if leap then 1 else 0)) :
    1 ≤ monthOf leap doy ∧ monthOf leap doy ≤ 12 ∧
    monthStart leap (monthOf leap doy) ≤ doy ∧ doy < monthStart leap (monthOf leap doy + 1) := by
  obtain ⟨v1, v13⟩ := monthStart_values leap
  rw [monthOf_eq]
  exact firstPast_spec (monthStart leap) doy 11 1 (v1 ▸ h0) (v13 ▸ h1)

theorem ymd_facts (j : Int) (hd : CivilDom j) :
    ∃ y m d, civilYMD j = (y, m, d) ∧ daysFromCivil y m d = j ∧
      0 ≤ y ∧ y < 10000 ∧ 1 ≤ m ∧ m ≤ 12 ∧ 1 ≤ d ∧ d ≤ 31 := by
  have hb := civil_bounds j
  have y0 := (civilYearStart_le_iff 0 j).1 hd.1
  have y1 := mt (civilYearStart_le_iff 10000 j).2 (Int.not_le.2 hd.2)
  obtain ⟨m1, m2, m3, m4⟩ := monthOf_spec (civilLeap (civilYearOf j)) (j - civilYearStart (civilYearOf j))
    (by omega) (by have := year_length_le (civilYearOf j); omega)
  have := month_length (civilLeap (civilYearOf j)) _ m1 m2
  refine ⟨_, _, _, rfl, ?_⟩
  simp only [daysFromCivil]
  omega

theorem civilRenderDate_no_sep (j : Int) : ∀ c ∈ civilRenderDate j, c ≠ ',' ∧ c ≠ '\n' := by
  have dig := fun n => digitChar_ne_sep (n % 10) (Nat.mod_lt n (by decide))
  simp only [civilRenderDate, pad4, pad2, List.cons_append, List.nil_append, List.forall_mem_cons]
  exact ⟨dig _, dig _, dig _, dig _, by decide, dig _, dig _, by decide, dig _, dig _, by simp⟩

theorem civilParseDate_pads (y m d : Int) (hy0 : 0 ≤ y) (hy : y < 10000) (hm0 : 0 ≤ m) (hm : m < 100)
    (hd0 : 0 ≤ d) (hd : d < 100) :
    civilParseDate (pad4 y.toNat ++ '-' :: pad2 m.toNat ++ '-' :: pad2 d.toNat) =
      if civilYMD (daysFromCivil y m d) = (y, m, d) then some (daysFromCivil y m d) else none := by
  have py := parseDigits_pad4 y.toNat (by omega)
  have pm := parseDigits_pad2 m.toNat (by omega)
  have pd := parseDigits_pad2 d.toNat (by omega)
  simp only [pad4, pad2, List.cons_append, List.nil_append, civilParseDate] at py pm pd ⊢
  simp only [py, pm, pd, Int.toNat_of_nonneg hy0, Int.toNat_of_nonneg hm0, Int.toNat_of_nonneg hd0]

theorem civilDateText_ok : civilDateText.OK CivilDom := by
  refine ⟨fun j hd => ?_, fun j _ h => (civilRenderDate_no_sep j _ h).1 rfl,
    fun j _ h => (civilRenderDate_no_sep j _ h).2 rfl⟩
  obtain ⟨y, m, d, hp, h1, h2, h3, h4, h5, h6, h7⟩ := ymd_facts j hd
  show civilParseDate (civilRenderDate j) = some j
  rw [civilRenderDate, hp]
  show civilParseDate (pad4 y.toNat ++ '-' :: pad2 m.toNat ++ '-' :: pad2 d.toNat) = some j
  rw [civilParseDate_pads y m d h2 h3 (by omega) (by omega) (by omega) (by omega), h1, if_pos hp]

end Acb.Fx
