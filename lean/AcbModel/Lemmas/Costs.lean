/-
  `calcTotalCosts` (App/Costs.lean) against App/CostsSpec.lean.  The first loop's state is a closed form
  over the rows read (`Inv1`); the second loop and the yearly maximum walk the days in date order, so
  their invariants (`Inv2`, `Best`) step only at a day with exactly the earlier days behind it.
-/
import AcbModel.App.CostsSpec
import AcbModel.Lemmas.KeyList
import AcbModel.Lemmas.Lists
import AcbModel.Lemmas.Rats
namespace Acb.Costs

@[simp] theorem observe_cost (t : DayTable) (d : Int) (s : Nat) (c : Rat) (d' : Int) (s' : Nat) :
    (observe t d s c).cost d' s' =
      if d' = d ∧ s' = s then some (max ((t.cost d s).getD 0) c) else t.cost d' s' := rfl

@[simp] theorem observe_total (t : DayTable) (d : Int) (s : Nat) (c : Rat) (d' : Int) :
    (observe t d s c).total d' =
      if d' = d then t.total d - (t.cost d s).getD 0 + max ((t.cost d s).getD 0) c else t.total d' := rfl

def TotalInv (secs : List Nat) (t : DayTable) : Prop :=
  ∀ d, t.total d = sumOver secs (fun s => (t.cost d s).getD 0)

theorem observe_totalInv {secs : List Nat} (hn : secs.Nodup) {t : DayTable} (h : TotalInv secs t)
    (d : Int) {s : Nat} (c : Rat) (h0 : s ∉ secs → ∀ d', (t.cost d' s).getD 0 = 0) :
    TotalInv (addKey secs s) (observe t d s c) := by
  intro d'
  rw [sumOver_addKey hn s (f := fun x => (t.cost d' x).getD 0) (fun x hx => by simp [hx]) (h0 · d'), ← h d']
  by_cases h1 : d' = d
  · simp [h1]
  · simp [h1, Rat.sub_add_cancel]

/-- running maximum exactly as `observe_new_cost` computes it (starting from `unwrap_or(0)`) -/
def maxL (l : List Rat) : Option Rat := l.foldl (fun m p => some (max (m.getD 0) p)) none

@[simp] theorem maxL_nil : maxL [] = none := rfl
theorem maxL_snoc (l : List Rat) (p : Rat) : maxL (l ++ [p]) = some (max ((maxL l).getD 0) p) := by
  simp [maxL, List.foldl_append]

theorem maxL_cons (x : Rat) (xs : List Rat) : maxL (x :: xs) = some (xs.foldl max (max 0 x)) := by
  simp only [maxL, List.foldl_cons, Option.getD_none]
  generalize max 0 x = a
  induction xs generalizing a with
  | nil => rfl
  | cons y ys ih => exact ih (max a y)

theorem mem_ofSec {rows : List Row} {s : Nat} {r : Row} : r ∈ ofSec rows s ↔ r ∈ counted rows ∧ r.sec = s := by
  simp [ofSec]

theorem mem_today {rows : List Row} {s : Nat} {d : Int} {p : Rat} :
    p ∈ today rows s d ↔ ∃ r ∈ ofSec rows s, r.day = d ∧ r.post.getD 0 = p := by
  simp [today, and_assoc]

theorem counted_append (P Q : List Row) : counted (P ++ Q) = counted P ++ counted Q := List.filter_append ..

theorem ofSec_append (P Q : List Row) (s : Nat) : ofSec (P ++ Q) s = ofSec P s ++ ofSec Q s := by
  rw [ofSec, counted_append, List.filter_append]
  rfl

theorem today_append (P Q : List Row) (s : Nat) (d : Int) : today (P ++ Q) s d = today P s d ++ today Q s d := by
  rw [today, ofSec_append, List.filter_append, List.map_append]
  rfl

theorem ofSec_singleton (r : Row) (s : Nat) : ofSec [r] s = if r.counted ∧ s = r.sec then [r] else [] := by
  by_cases hc : r.counted <;> by_cases hs : s = r.sec <;> simp [ofSec, counted, hc, hs, eq_comm]

theorem today_singleton (r : Row) (s : Nat) (d : Int) :
    today [r] s d = if r.counted ∧ d = r.day ∧ s = r.sec then [r.post.getD 0] else [] := by
  rw [today, ofSec_singleton]
  by_cases h : r.counted ∧ s = r.sec
  · rw [if_pos h]
    by_cases hd : d = r.day <;> simp [h, hd, eq_comm]
  · rw [if_neg h, if_neg (fun h' => h ⟨h'.1, h'.2.2⟩)]
    rfl

theorem today_nil_of_sec_not_mem {P : List Row} {s : Nat} (h : ¬ ∃ r ∈ counted P, r.sec = s) (d : Int) :
    today P s d = [] := by
  refine List.eq_nil_iff_forall_not_mem.mpr fun p hp => ?_
  obtain ⟨r, hr, -⟩ := mem_today.mp hp
  exact h ⟨r, mem_ofSec.mp hr⟩

theorem notesOf_snoc (P : List Row) (r : Row) :
    notesOf (P ++ [r]) = notesOf P ++ (noteOf r).toList := by
  simp only [notesOf, List.filterMap_append, List.filterMap_cons, List.filterMap_nil]
  cases noteOf r <;> simp

theorem noteOf_eq_none_iff (r : Row) : noteOf r = none ↔ r.counted = true := by
  unfold noteOf Row.counted
  cases r.post <;> cases r.dflt <;> simp

theorem WF.nonneg_ofSec {rows : List Row} (hwf : WF rows) {s : Nat} {r : Row} (hr : r ∈ ofSec rows s) :
    0 ≤ r.post.getD 0 ∧ 0 ≤ r.pre.getD 0 := by
  have hr : r ∈ rows := (List.mem_filter.mp (mem_ofSec.mp hr).1).1
  constructor
  · cases hp : r.post with
    | none => exact Rat.le_refl
    | some p => exact hwf.nonneg r hr p (Or.inl hp)
  · cases hp : r.pre with
    | none => exact Rat.le_refl
    | some p => exact hwf.nonneg r hr p (Or.inr hp)

theorem carry_nonneg {rows : List Row} (hwf : WF rows) (s : Nat) (d : Int) : 0 ≤ carry rows s d := by
  unfold carry
  split
  · rename_i r hr
    exact (hwf.nonneg_ofSec (List.mem_filter.mp (List.mem_of_getLast? hr)).1).1
  · unfold opening
    split
    · rename_i r hr
      exact (hwf.nonneg_ofSec (List.mem_of_head? hr)).2
    · exact Rat.le_refl

theorem foldl_max_spec (l : List Rat) (a : Rat) :
    (l.foldl max a = a ∨ l.foldl max a ∈ l) ∧ a ≤ l.foldl max a ∧ ∀ p ∈ l, p ≤ l.foldl max a := by
  induction l generalizing a with
  | nil => simp
  | cons x xs ih =>
    obtain ⟨h1, h2, h3⟩ := ih (max a x)
    simp only [List.foldl_cons, List.mem_cons, forall_eq_or_imp]
    rcases max_cases a x with ⟨e, hle⟩ | ⟨e, hle⟩ <;> rw [e] at h1 h2 h3 ⊢
    · exact ⟨h1.imp id Or.inr, h2, Rat.le_trans hle h2, h3⟩
    · exact ⟨Or.inr h1, Rat.le_trans hle h2, h2, h3⟩

theorem Figure_unique {rows : List Row} {s : Nat} {d : Int} {v w : Rat}
    (hv : Figure rows s d v) (hw : Figure rows s d w) : v = w := by
  rcases hv with ⟨hne, h1, h2⟩ | ⟨hn, h1⟩ <;> rcases hw with ⟨hne', h3, h4⟩ | ⟨hn', h3⟩
  · exact Rat.le_antisymm (h4 v h1) (h2 w h3)
  · exact absurd hn' hne
  · exact absurd hn hne'
  · rw [h1, h3]

theorem figure_spec (rows : List Row) (s : Nat) (d : Int) : Figure rows s d (figure rows s d) := by
  unfold figure Figure
  cases today rows s d with
  | nil => exact Or.inr ⟨rfl, rfl⟩
  | cons p ps =>
    obtain ⟨h1, h2, h3⟩ := foldl_max_spec ps p
    exact Or.inl ⟨by simp, List.mem_cons.mpr h1, List.forall_mem_cons.mpr ⟨h2, h3⟩⟩

theorem figure_of_today_nil {rows : List Row} {s : Nat} {d : Int} (h : today rows s d = []) :
    figure rows s d = carry rows s d := by
  rw [figure, h]

/-- The running maximum starts from 0; no cost base is negative. -/
theorem maxL_today {rows : List Row} (hwf : WF rows) {s : Nat} {d : Int} (h : today rows s d ≠ []) :
    maxL (today rows s d) = some (figure rows s d) := by
  unfold figure
  cases ht : today rows s d with
  | nil => exact absurd ht h
  | cons p ps =>
    obtain ⟨r, hr, -, rfl⟩ := mem_today.mp (ht ▸ List.mem_cons_self)
    rw [maxL_cons, Rat.max_def, if_pos (hwf.nonneg_ofSec hr).1]

structure Inv1 (P : List Row) (st : St) : Prop where
  days_nodup : st.days.Nodup
  days_mem : ∀ d, d ∈ st.days ↔ ∃ r ∈ counted P, r.day = d
  secs_nodup : st.secs.Nodup
  secs_mem : ∀ s, s ∈ st.secs ↔ ∃ r ∈ counted P, r.sec = s
  cost : ∀ d s, st.tab.cost d s = maxL (today P s d)
  total : ∀ d, st.tab.total d = sumOver st.secs (fun s => (st.tab.cost d s).getD 0)
  zero : ∀ s, st.zero s = (ofSec P s).head?.map (fun r => (r.day, r.pre.getD 0))
  closing : ∀ d s, st.closing d s = (today P s d).getLast?
  notes : st.notes = notesOf P

theorem Inv1.init : Inv1 [] St.init := by
  constructor <;> simp [St.init, counted, today, ofSec, notesOf, DayTable.empty]

/-- `stepCounted` succeeds unless the security's first counted row has no pre cost base or the row
    is dated before that first row; the new state in closed form. -/
theorem stepCounted_ok_iff {st st' : St} {r : Row} {acb : Rat} :
    stepCounted st r acb = .ok st' ↔
      (st.zero r.sec = none → r.pre.isSome = true) ∧ (∀ z, st.zero r.sec = some z → z.1 ≤ r.day) ∧
      st' = { st with
        secs := addKey st.secs r.sec, days := addKey st.days r.day,
        tab := observe st.tab r.day r.sec acb,
        closing := fun d s => if d = r.day ∧ s = r.sec then some acb else st.closing d s,
        zero := fun s => if s = r.sec then some ((st.zero r.sec).getD (r.day, r.pre.getD 0)) else st.zero s } := by
  unfold stepCounted
  cases hz : st.zero r.sec with
  | none => cases hp : r.pre <;> simp [eq_comm (b := st')]
  | some z =>
    -- the closed form writes back the entry that is there
    have e : (fun s => if s = r.sec then some z else st.zero s) = st.zero := by
      funext s
      by_cases h : s = r.sec
      · rw [if_pos h, h, hz]
      · rw [if_neg h]
    by_cases hle : z.1 ≤ r.day <;> simp [hle, e, eq_comm (b := st')]

theorem stepCounted_inv {P : List Row} {st st' : St} {r : Row} (hc : r.counted = true)
    (inv : Inv1 P st) (h : stepCounted st r (r.post.getD 0) = .ok st') : Inv1 (P ++ [r]) st' := by
  have hcnt : counted (P ++ [r]) = counted P ++ [r] := by simp [counted, hc]
  obtain ⟨-, -, rfl⟩ := stepCounted_ok_iff.mp h
  exact {
    days_nodup := addKey_nodup inv.days_nodup _
    days_mem := hcnt ▸ mem_addKey_snoc Row.day inv.days_mem r
    secs_nodup := addKey_nodup inv.secs_nodup _
    secs_mem := hcnt ▸ mem_addKey_snoc Row.sec inv.secs_mem r
    cost := fun d s => by
      simp only [observe_cost, today_append, today_singleton, hc, true_and]
      split
      · rename_i h
        obtain ⟨rfl, rfl⟩ := h
        rw [maxL_snoc, inv.cost]
      · rw [List.append_nil]
        exact inv.cost d s
    total := by
      refine observe_totalInv inv.secs_nodup inv.total _ _ (fun hk d => ?_)
      rw [inv.cost, today_nil_of_sec_not_mem (by rwa [← inv.secs_mem])]
      rfl
    zero := fun s => by
      simp only [ofSec_append, ofSec_singleton, hc, true_and]
      split
      · subst s
        rw [List.head?_append, Option.map_or, ← inv.zero]
        simp [Option.or_some]
      · rw [List.append_nil]
        exact inv.zero s
    closing := fun d s => by
      simp only [today_append, today_singleton, hc, true_and]
      split
      · simp
      · rw [List.append_nil]
        exact inv.closing d s
    notes := by simp [notesOf_snoc, (noteOf_eq_none_iff r).mpr hc, inv.notes] }

theorem Inv1.of_uncounted {P : List Row} {st : St} {r : Row} (hc : r.counted = false) (inv : Inv1 P st) :
    Inv1 (P ++ [r]) { st with notes := st.notes ++ (noteOf r).toList } := by
  have e0 : counted (P ++ [r]) = counted P := by simp [counted, hc]
  have e1 : ∀ s, ofSec (P ++ [r]) s = ofSec P s := fun s => congrArg (List.filter _) e0
  have e2 : ∀ s d, today (P ++ [r]) s d = today P s d := fun s d => by simp only [today, e1]
  exact {
    days_nodup := inv.days_nodup
    days_mem := e0 ▸ inv.days_mem
    secs_nodup := inv.secs_nodup
    secs_mem := e0 ▸ inv.secs_mem
    cost := by simpa only [e2] using inv.cost
    total := inv.total
    zero := by simpa only [e1] using inv.zero
    closing := by simpa only [e2] using inv.closing
    notes := by simp [notesOf_snoc, inv.notes] }

theorem step_eq (st : St) (r : Row) :
    step st r = if r.counted then stepCounted st r (r.post.getD 0)
      else .ok { st with notes := st.notes ++ (noteOf r).toList } := by
  unfold step noteOf Row.counted
  cases r.post <;> cases r.dflt <;> simp

theorem step_inv {P : List Row} {st st' : St} {r : Row} (inv : Inv1 P st) (h : step st r = .ok st') :
    Inv1 (P ++ [r]) st' := by
  rw [step_eq] at h
  split at h
  · exact stepCounted_inv ‹_› inv h
  · cases h
    exact inv.of_uncounted (by simp_all)

theorem loop1_inv {P rows : List Row} {st st' : St} (inv : Inv1 P st) (h : loop1 rows st = .ok st') :
    Inv1 (P ++ rows) st' := by
  induction rows generalizing P st with
  | nil =>
    cases h
    simpa using inv
  | cons r rs ih =>
    simp only [loop1] at h
    split at h
    · rename_i st1 h1
      simpa using ih (step_inv inv h1) h
    · cases h

theorem loop1_ok {P : List Row} {st : St} (rows : List Row) (hwf : WF (P ++ rows)) (inv : Inv1 P st) :
    ∃ st', loop1 rows st = .ok st' := by
  induction rows generalizing P st with
  | nil => exact ⟨st, rfl⟩
  | cons r rs ih =>
    have hstep : ∃ st1, step st r = .ok st1 := by
      rw [step_eq]
      split
      · rename_i hc
        refine ⟨_, stepCounted_ok_iff.mpr ⟨fun _ => ?_, fun z hz => ?_, rfl⟩⟩
        · exact hwf.pre r (by simp) (by simp_all [Row.counted])
        · -- `z` is taken from the first counted row `a` of the security, and `a` precedes `r`
          rw [inv.zero, Option.map_eq_some_iff] at hz
          obtain ⟨a, ha, rfl⟩ := hz
          have hs := hwf.sortedSec r.sec
          rw [ofSec_append, ← List.singleton_append, ofSec_append, ofSec_singleton, if_pos ⟨hc, rfl⟩] at hs
          exact (List.pairwise_append.mp hs).2.2 a (List.mem_of_head? ha) r (by simp)
      · exact ⟨_, rfl⟩
    obtain ⟨st1, h1⟩ := hstep
    obtain ⟨st', h'⟩ := ih (by simpa using hwf) (step_inv inv h1)
    exact ⟨st', by simp [loop1, h1, h']⟩

theorem foldl_sorted_inv {β : Type} {I : List Int → β → Prop} {f : β → Int → β} {L : List Int}
    (hs : L.Pairwise (fun a b => a < b))
    (step : ∀ K d b, (∀ k ∈ K, k < d) → (∀ x ∈ L, x < d → x ∈ K) → I K b → I (K ++ [d]) (f b d))
    {b : β} (h : I [] b) : I L (L.foldl f b) := by
  suffices ∀ R K b, L = K ++ R → I K b → I L (R.foldl f b) from this L [] b rfl h
  intro R
  induction R with
  | nil =>
    intro K b e hI
    simpa [e] using hI
  | cons d R ih =>
    intro K b e hI
    have hp := List.pairwise_append.mp (e ▸ hs)
    refine ih (K ++ [d]) (f b d) (by simp [e]) (step K d b (fun k hk => hp.2.2 k hk d (by simp)) ?_ hI)
    intro x hx hlt
    rcases List.mem_append.mp (e ▸ hx) with h | h
    · exact h
    · rcases List.mem_cons.mp h with h | h
      · omega
      · have := (List.pairwise_cons.mp hp.2.1).1 x h
        omega

theorem fillSec_totalInv {secs : List Nat} (hn : secs.Nodup) {s : Nat} (hs : s ∈ secs) (st : St) (d : Int)
    {f : Fill} (h : TotalInv secs f.tab) : TotalInv secs (fillSec st d f s).tab := by
  unfold fillSec
  split
  · exact h
  · have := observe_totalInv hn h d (carriedCost st f s) (fun h' => absurd hs h')
    rwa [addKey_of_mem hs] at this

theorem fillSec_cost (st : St) (d : Int) (f : Fill) (x : Nat) (d' : Int) (s' : Nat) :
    (fillSec st d f x).tab.cost d' s' =
      if d' = d ∧ s' = x ∧ st.closing d x = none
      then some (max ((f.tab.cost d x).getD 0) (carriedCost st f x)) else f.tab.cost d' s' := by
  unfold fillSec
  cases st.closing d x <;> simp

theorem fillSec_last (st : St) (d : Int) (f : Fill) (x s' : Nat) :
    (fillSec st d f x).last s' = if s' = x then (st.closing d x).or (f.last x) else f.last s' := by
  unfold fillSec
  cases st.closing d x with
  | none => simp +contextual
  | some c => simp

theorem carriedCost_fillSec_of_ne {x s : Nat} (h : s ≠ x) (st : St) (d : Int) (f : Fill) :
    carriedCost st (fillSec st d f x) s = carriedCost st f s := by
  simp [carriedCost, fillSec_last, h]

/-- Every security is handled from the values the walk started with: no security reads what another
    one wrote. -/
theorem fold_fillSec (st : St) (d : Int) (L : List Nat) (hn : L.Nodup) (f : Fill) :
    (∀ d' s', (L.foldl (fillSec st d) f).tab.cost d' s' =
        if d' = d ∧ s' ∈ L ∧ st.closing d s' = none
        then some (max ((f.tab.cost d s').getD 0) (carriedCost st f s')) else f.tab.cost d' s') ∧
    (∀ s', (L.foldl (fillSec st d) f).last s' =
        if s' ∈ L then (st.closing d s').or (f.last s') else f.last s') := by
  induction L generalizing f with
  | nil => simp
  | cons x xs ih =>
    have hx := List.nodup_cons.mp hn
    obtain ⟨ih1, ih2⟩ := ih hx.2 (fillSec st d f x)
    refine ⟨fun d' s' => ?_, fun s' => ?_⟩
    · rw [List.foldl_cons, ih1]
      by_cases hs : s' = x
      · subst hs
        simp [hx.1, fillSec_cost]
      · simp [hs, fillSec_cost, carriedCost_fillSec_of_ne hs]
    · rw [List.foldl_cons, ih2, fillSec_last]
      by_cases hs : s' = x
      · subst hs
        simp [hx.1]
      · simp [hs]

theorem carriedCost_eq {rows : List Row} {st : St} {f : Fill} {s : Nat} {d : Int} (inv : Inv1 rows st)
    (h : f.last s = (((ofSec rows s).filter (fun r => decide (r.day < d))).getLast?).map (fun r => r.post.getD 0)) :
    carriedCost st f s = carry rows s d := by
  unfold carriedCost carry opening
  rw [h, inv.zero]
  cases ((ofSec rows s).filter (fun r => decide (r.day < d))).getLast? with
  | some r => rfl
  | none => cases (ofSec rows s).head? <;> rfl

/-- after the days `K`: their cells hold the figures, the other days are as the first loop left
    them, and `last_acbs` holds each security's closing cost of its latest day in `K` -/
structure Inv2 (rows : List Row) (st : St) (K : List Int) (f : Fill) : Prop where
  cell : ∀ d s, f.tab.cost d s =
    if d ∈ K ∧ s ∈ st.secs then some (figure rows s d) else st.tab.cost d s
  total : TotalInv st.secs f.tab
  last : ∀ s ∈ st.secs, f.last s =
    (((ofSec rows s).filter (fun r => decide (r.day ∈ K))).getLast?).map (fun r => r.post.getD 0)

theorem fillDay_inv {rows : List Row} {st : St} {σ : List Nat → List Nat} {K : List Int} {d : Int} {f : Fill}
    (hwf : WF rows) (inv : Inv1 rows st) (hσ : IsOrder σ)
    (hK : ∀ k ∈ K, k < d) (hlt : ∀ r ∈ counted rows, r.day < d → r.day ∈ K)
    (i2 : Inv2 rows st K f) : Inv2 rows st (K ++ [d]) (fillDay st σ f d) := by
  have hdK : d ∉ K := fun h => Int.lt_irrefl d (hK d h)
  have hmem : ∀ s, s ∈ σ st.secs ↔ s ∈ st.secs := fun s => (hσ st.secs).mem_iff
  obtain ⟨hc, hl⟩ := fold_fillSec st d (σ st.secs) ((hσ st.secs).nodup_iff.mpr inv.secs_nodup) f
  refine ⟨fun d' s => ?_, ?_, fun s hs => ?_⟩
  · rw [fillDay, hc]
    by_cases hd : d' = d
    · subst hd
      by_cases hs : s ∈ st.secs
      · have hfe : (ofSec rows s).filter (fun r => decide (r.day < d')) =
            (ofSec rows s).filter (fun r => decide (r.day ∈ K)) :=
          List.filter_congr (fun r hr => decide_eq_decide.mpr ⟨hlt r (mem_ofSec.mp hr).1, hK _⟩)
        rw [i2.cell, if_neg (fun h : d' ∈ K ∧ s ∈ st.secs => hdK h.1), inv.cost, inv.closing,
          carriedCost_eq inv (hfe ▸ i2.last s hs)]
        by_cases ht : today rows s d' = []
        · -- no settlement that day: the carried cost is observed in an empty cell
          simp [hs, hmem, ht, figure_of_today_nil ht, Rat.max_def, carry_nonneg hwf s d']
        · simp [hs, hmem, ht, maxL_today hwf ht]
      · simp [hs, hmem, hdK, i2.cell]
    · simp [hd, i2.cell]
  · exact List.foldlRecOn (motive := fun f : Fill => TotalInv st.secs f.tab) _ _ i2.total
      (fun f hf s hs => fillSec_totalInv inv.secs_nodup ((hmem s).mp hs) st d hf)
  · -- the security's rows are in date order, so those of day `d` come after those of the days in `K`
    have hsplit := filter_or_eq_append (p := fun r : Row => r.day ∈ K) (q := fun r => r.day = d)
      ((hwf.sortedSec s).imp fun {a b} hab (ha : a.day = d) hb => by
        have := hK _ hb
        omega)
      (fun a _ (ha : a.day = d) hb => hdK (ha ▸ hb))
    have hpe : (ofSec rows s).filter (fun r => decide (r.day ∈ K ++ [d])) =
        (ofSec rows s).filter (fun r => decide (r.day ∈ K) || decide (r.day = d)) :=
      List.filter_congr (fun r _ => by simp)
    rw [fillDay, hl s, if_pos ((hmem s).mpr hs), hpe, hsplit, List.getLast?_append, Option.map_or, ← i2.last s hs,
      inv.closing, today, List.getLast?_map]

theorem loop2_inv {rows : List Row} {st : St} {σ : List Nat → List Nat} {τ : List Int → List Int}
    (hwf : WF rows) (inv : Inv1 rows st) (hσ : IsOrder σ) (hτ : IsOrder τ) :
    Inv2 rows st (sortDays (τ st.days)) (loop2 st σ τ) := by
  refine foldl_sorted_inv (sortDays_strict ((hτ st.days).nodup_iff.mpr inv.days_nodup))
    (fun K d f hK hL i2 => fillDay_inv hwf inv hσ hK (fun r hr => hL r.day ?_) i2)
    ⟨by simp, inv.total, fun s _ => ?_⟩
  · exact mem_sortDays.mpr ((hτ st.days).mem_iff.mpr ((inv.days_mem r.day).mpr ⟨r, hr, rfl⟩))
  · rw [List.filter_eq_nil_iff.mpr (by simp)]
    rfl

/-- `o` is the earliest of the days of year `y` in `K` with the highest total; `none` if `K` has no
    day of year `y` -/
def Best (yearOf : Int → Int) (total : Int → Rat) (K : List Int) (y : Int) : Option Int → Prop
  | none => ∀ d ∈ K, yearOf d ≠ y
  | some b => b ∈ K ∧ yearOf b = y ∧
      ∀ d ∈ K, yearOf d = y → total d ≤ total b ∧ (total d = total b → b ≤ d)

theorem Best.snoc_other {yearOf : Int → Int} {total : Int → Rat} {K : List Int} {y d : Int} (hne : yearOf d ≠ y)
    {o : Option Int} (h : Best yearOf total K y o) : Best yearOf total (K ++ [d]) y o := by
  cases o with
  | none => exact List.forall_mem_append.mpr ⟨h, List.forall_mem_singleton.mpr hne⟩
  | some b =>
    obtain ⟨hb, hy, hmax⟩ := h
    exact ⟨List.mem_append_left _ hb, hy,
      List.forall_mem_append.mpr ⟨hmax, List.forall_mem_singleton.mpr (fun e => absurd e hne)⟩⟩

theorem Best.snoc_same {yearOf : Int → Int} {total : Int → Rat} {K : List Int} {d : Int} (hK : ∀ k ∈ K, k < d)
    {o : Option Int} (h : Best yearOf total K (yearOf d) o) :
    Best yearOf total (K ++ [d]) (yearOf d)
      (some (match (generalizing := false) o with
        | some old => if total old < total d then d else old
        | none => d)) := by
  have hd : yearOf d = yearOf d → total d ≤ total d ∧ (total d = total d → d ≤ d) :=
    fun _ => ⟨Rat.le_refl, fun _ => Int.le_refl d⟩
  cases o with
  | none =>
    exact ⟨by simp, rfl,
      List.forall_mem_append.mpr ⟨fun d' hk e => absurd e (h d' hk), List.forall_mem_singleton.mpr hd⟩⟩
  | some old =>
    obtain ⟨ho1, ho2, ho3⟩ := h
    show Best yearOf total (K ++ [d]) (yearOf d) (some (if total old < total d then d else old))
    split
    · rename_i hlt
      refine ⟨by simp, rfl, List.forall_mem_append.mpr ⟨fun d' hk e => ?_, List.forall_mem_singleton.mpr hd⟩⟩
      have hlt' := Std.lt_of_le_of_lt (ho3 d' hk e).1 hlt
      exact ⟨Rat.le_of_lt hlt', fun e' => absurd (e' ▸ hlt') Rat.lt_irrefl⟩
    · rename_i hnlt
      exact ⟨List.mem_append_left _ ho1, ho2, List.forall_mem_append.mpr ⟨ho3, List.forall_mem_singleton.mpr
        (fun _ => ⟨Rat.not_lt.mp hnlt, fun _ => Int.le_of_lt (hK old ho1)⟩)⟩⟩

theorem yearStep_get (yearOf : Int → Int) (total : Int → Rat) (m : YMap) (d y : Int) :
    (yearStep yearOf total m d).get y =
      if y = yearOf d then
        some (match m.get (yearOf d) with
          | some old => if total old < total d then d else old
          | none => d)
      else m.get y := by
  unfold yearStep
  cases hm : m.get (yearOf d) with
  | none => rfl
  | some old =>
    by_cases hlt : total old < total d <;> by_cases hy : y = yearOf d <;> simp [hlt, hy, hm]

theorem yearly_best (yearOf : Int → Int) (total : Int → Rat) {days : List Int} (hn : days.Nodup)
    {τ : List Int → List Int} (hτ : IsOrder τ) (y : Int) :
    Best yearOf total (sortDays (τ days)) y (yearly yearOf total days τ y) := by
  refine foldl_sorted_inv (I := fun K (m : YMap) => ∀ y, Best yearOf total K y (m.get y))
    (b := { get := fun _ => none }) (sortDays_strict ((hτ days).nodup_iff.mpr hn)) (fun K d m hK _ h y => ?_)
    (fun _ _ hd => absurd hd List.not_mem_nil) y
  rw [yearStep_get]
  split
  · subst y
    exact (h (yearOf d)).snoc_same hK
  · exact (h y).snoc_other (Ne.symm ‹_›)

variable {yearOf : Int → Int} {rows : List Row} {σ : List Nat → List Nat} {τ : List Int → List Int} {c : Result}

theorem calcTotalCosts_eq (yearOf : Int → Int) (rows : List Row) (σ : List Nat → List Nat) (τ : List Int → List Int) :
    calcTotalCosts yearOf rows σ τ = (loop1 rows St.init).map fun st =>
      { secs := st.secs, days := sortDays (τ st.days), tab := (loop2 st (secWalk σ) τ).tab,
        yearly := yearly yearOf (loop2 st (secWalk σ) τ).tab.total st.days τ, notes := st.notes } := by
  unfold calcTotalCosts
  cases loop1 rows St.init <;> rfl

theorem calcTotalCosts_inv1 (h : calcTotalCosts yearOf rows σ τ = .ok c) :
    ∃ st, Inv1 rows st ∧
      c = { secs := st.secs, days := sortDays (τ st.days), tab := (loop2 st (secWalk σ) τ).tab,
            yearly := yearly yearOf (loop2 st (secWalk σ) τ).tab.total st.days τ, notes := st.notes } := by
  rw [calcTotalCosts_eq] at h
  cases hst : loop1 rows St.init with
  | error e => cases hst ▸ h
  | ok st =>
    cases hst ▸ h
    exact ⟨st, loop1_inv (P := []) .init hst, rfl⟩

theorem calcTotalCosts_yearly (hτ : IsOrder τ) (h : calcTotalCosts yearOf rows σ τ = .ok c) (y : Int) :
    Best yearOf c.tab.total c.days y (c.yearly y) := by
  obtain ⟨st, inv, rfl⟩ := calcTotalCosts_inv1 h
  exact yearly_best yearOf _ inv.days_nodup hτ y

theorem calcTotalCosts_cell (hwf : WF rows) (hσ : IsOrder σ) (hτ : IsOrder τ)
    (h : calcTotalCosts yearOf rows σ τ = .ok c) : ∀ d ∈ c.days, ∀ s ∈ c.secs, c.tab.cost d s = some (figure rows s d) := by
  obtain ⟨st, inv, rfl⟩ := calcTotalCosts_inv1 h
  intro d hd s hs
  rw [(loop2_inv hwf inv (secWalk_isOrder hσ) hτ).cell, if_pos ⟨hd, hs⟩]

theorem calcTotalCosts_total (hwf : WF rows) (hσ : IsOrder σ) (hτ : IsOrder τ)
    (h : calcTotalCosts yearOf rows σ τ = .ok c) : TotalInv c.secs c.tab := by
  obtain ⟨st, inv, rfl⟩ := calcTotalCosts_inv1 h
  exact (loop2_inv hwf inv (secWalk_isOrder hσ) hτ).total

end Acb.Costs
