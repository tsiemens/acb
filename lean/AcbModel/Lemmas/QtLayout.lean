/-
  Layout independence (C18): the header reader finds the last column headed by a name, so a sheet
  that lays out some records converts exactly like the records.
-/
import AcbModel.Broker.Spec
namespace Acb.Qt

section headerIndex
variable {hdr : List Cell} {name : String}

theorem headerIndex_spec (hdr : List Cell) (name : String) :
    (∀ i, headerIndex hdr name = some i →
      hdr[i]? = some (Cell.str name) ∧ ∀ j : Nat, i < j → hdr[j]? ≠ some (Cell.str name)) ∧
    (headerIndex hdr name = none → ∀ j : Nat, hdr[j]? ≠ some (Cell.str name)) := by
  fun_induction headerIndex hdr name with
  | case1 => simp
  | case2 c cs name k h ih =>
    obtain ⟨hk, hlast⟩ := ih.1 k h
    refine ⟨?_, nofun⟩
    rintro _ ⟨⟩
    refine ⟨hk, ?_⟩
    rintro (_ | j) hj
    · omega
    · exact hlast j (by omega)
  | case3 cs name h ih =>
    refine ⟨?_, nofun⟩
    rintro _ ⟨⟩
    refine ⟨rfl, ?_⟩
    rintro (_ | j) hj
    · omega
    · exact ih.2 h j
  | case4 c cs name h hc ih =>
    refine ⟨nofun, fun _ => ?_⟩
    rintro (_ | j)
    · exact fun h => hc (Option.some.inj h)
    · exact ih.2 h j

theorem headerIndex_eq_some_iff {i : Nat} :
    headerIndex hdr name = some i ↔
      hdr[i]? = some (Cell.str name) ∧ ∀ j : Nat, i < j → hdr[j]? ≠ some (Cell.str name) := by
  refine ⟨(headerIndex_spec hdr name).1 i, fun ho => ?_⟩
  cases h : headerIndex hdr name with
  | none => exact absurd ho.1 ((headerIndex_spec hdr name).2 h i)
  | some k =>
    have hs := (headerIndex_spec hdr name).1 k h
    rcases Nat.lt_trichotomy i k with hlt | rfl | hlt
    · exact absurd hs.1 (ho.2 k hlt)
    · rfl
    · exact absurd ho.1 (hs.2 i hlt)

theorem headerIndex_eq_none_iff :
    headerIndex hdr name = none ↔ ∀ j : Nat, hdr[j]? ≠ some (Cell.str name) := by
  refine ⟨(headerIndex_spec hdr name).2, fun ho => ?_⟩
  cases h : headerIndex hdr name with
  | none => rfl
  | some k => exact absurd ((headerIndex_spec hdr name).1 k h).1 (ho k)

end headerIndex

theorem cellAt_of_last {hdr row : List Cell} {name : String} {i : Nat} {c : Cell}
    (hi : hdr[i]? = some (Cell.str name))
    (hl : ∀ j : Nat, i < j → hdr[j]? ≠ some (Cell.str name))
    (hc : row[i]? = some c) : cellAt hdr row name = .ok c := by
  simp [cellAt, headerIndex_eq_some_iff.mpr ⟨hi, hl⟩, hc]

theorem cellAt_of_unique {hdr row : List Cell} {name : String} {i : Nat} {c : Cell}
    (hi : hdr[i]? = some (Cell.str name))
    (hu : ∀ j : Nat, hdr[j]? = some (Cell.str name) → j = i)
    (hc : row[i]? = some c) : cellAt hdr row name = .ok c :=
  cellAt_of_last hi (fun j hj h => absurd (hu j h) (by omega)) hc

theorem parseRow_congr {rd rd' : Reader} (n : Nat)
    (h : ∀ x ∈ usedNames, rd x = rd' x) : parseRow rd n = parseRow rd' n := by
  simp only [usedNames, List.forall_mem_cons] at h
  obtain ⟨h1, h2, h3, h4, h5, h6, h7, h8, h9, h10, h11, _⟩ := h
  unfold parseRow Reader.getStr Reader.getDec
  rw [h1, h2, h3, h4, h5, h6, h7, h8, h9, h10, h11]

theorem runRows_congr {rds rds' : List Reader}
    (h : rds.map (fun rd => usedNames.map rd) = rds'.map (fun rd => usedNames.map rd)) (st : St) (n : Nat) :
    runRows st n rds = runRows st n rds' := by
  induction rds generalizing rds' st n with
  | nil =>
    cases List.map_eq_nil_iff.mp h.symm
    rfl
  | cons rd rest ih =>
    cases rds' with
    | nil => simp at h
    | cons rd' rest' =>
      simp only [List.map_cons, List.cons.injEq] at h
      simp only [runRows, stepRow, parseRow_congr n (List.map_inj_left.mp h.1), ih h.2]

theorem sheetToTxs_of_layout {recs : List Record} {s : Sheet} (hl : IsLayout usedNames recs s) :
    sheetToTxs s = convertReaders (recs.map Record.reader) := by
  unfold sheetToTxs convertReaders
  congr 1
  apply runRows_congr
  apply List.ext_getElem (by simp [hl.nrows])
  intro k h₁ h₂
  simp only [List.getElem_map]
  refine List.map_inj_left.mpr fun x hx => ?_
  obtain ⟨i, hi, hu, hc⟩ := hl.cols x hx
  exact cellAt_of_unique hi hu (hc k (by simpa using h₁) (by simpa using h₂))

theorem getElem?_insertCol {α : Type} (k : Nat) (x : α) (l : List α) (j : Nat) :
    (insertCol k x l)[j]? =
      if j < min k l.length then l[j]? else if j = min k l.length then some x else l[j - 1]? := by
  unfold insertCol
  rw [List.getElem?_append, List.length_take, List.getElem?_take, List.getElem?_cons, List.getElem?_drop]
  grind

/-- where column `i` stands once a column has been inserted before position `k` -/
def shiftCol (k i : Nat) : Nat := if i < k then i else i + 1

theorem getElem?_insertCol_shift {α : Type} (k : Nat) (x : α) {l : List α} {i : Nat} (hi : i < l.length) :
    (insertCol k x l)[shiftCol k i]? = l[i]? := by
  rw [getElem?_insertCol, shiftCol]
  by_cases h : i < k
  · rw [if_pos h, if_pos (by omega)]
  · rw [if_neg h, if_neg (by omega), if_neg (by omega), Nat.add_sub_cancel]

theorem getElem?_insertCol_eq_some {α : Type} {k : Nat} {x y : α} {l : List α} {j : Nat}
    (h : (insertCol k x l)[j]? = some y) : y = x ∨ ∃ i, j = shiftCol k i ∧ l[i]? = some y := by
  rw [getElem?_insertCol] at h
  unfold shiftCol
  -- `j` is below, at, or above the insertion point: `i = j`, `y = x`, `i = j - 1`
  grind

/-- the sheet with one more column: header cell `h` before position `k`, row `i` filled with `fill i` -/
def Sheet.withColumn (s : Sheet) (k : Nat) (h : Cell) (fill : Nat → Cell) : Sheet :=
  { hdr := insertCol k h s.hdr
    rows := s.rows.zipIdx.map (fun p => insertCol k (fill p.2) p.1) }

theorem IsLayout.withColumn {names : List String} {recs : List Record} {s : Sheet}
    (hl : IsLayout names recs s) (k : Nat) (h : Cell) (hh : ∀ n ∈ names, h ≠ Cell.str n)
    (fill : Nat → Cell) : IsLayout names recs (s.withColumn k h fill) := by
  refine ⟨by simp [Sheet.withColumn, hl.nrows], ?_⟩
  intro n hn
  obtain ⟨i, hi, hu, hc⟩ := hl.cols n hn
  refine ⟨shiftCol k i, ?_, ?_, ?_⟩
  · exact (getElem?_insertCol_shift k h (List.getElem?_eq_some_iff.mp hi).1).trans hi
  · intro j hj
    rcases getElem?_insertCol_eq_some hj with he | ⟨i', rfl, hi'⟩
    · exact absurd he.symm (hh n hn)
    · rw [hu i' hi']
  · intro q h₁ h₂
    have h₀ : q < s.rows.length := by simpa [Sheet.withColumn] using h₁
    have he : (s.withColumn k h fill).rows[q] = insertCol k (fill q) s.rows[q] := by
      simp [Sheet.withColumn]
    rw [he, getElem?_insertCol_shift k _ (List.getElem?_eq_some_iff.mp (hc q h₀ h₂)).1]
    exact hc q h₀ h₂

/-- executable check of `IsLayout` (used for concrete sheets) -/
def layoutCheck (names : List String) (recs : List Record) (s : Sheet) : Bool :=
  s.rows.length == recs.length &&
  names.all (fun n =>
    match headerIndex s.hdr n with
    | none => false
    | some i =>
      decide (∀ j, j < s.hdr.length → s.hdr[j]? = some (Cell.str n) → j = i) &&
      decide (∀ k, k < recs.length → (s.rows[k]?.bind (·[i]?)) = recs[k]?.map (fun r => r n)))

theorem isLayout_of_check {names : List String} {recs : List Record} {s : Sheet}
    (h : layoutCheck names recs s = true) : IsLayout names recs s := by
  unfold layoutCheck at h
  simp only [Bool.and_eq_true, beq_iff_eq, List.all_eq_true] at h
  refine ⟨h.1, fun n hmem => ?_⟩
  have := h.2 n hmem
  split at this
  · cases this
  · rename_i i hi
    simp only [Bool.and_eq_true, decide_eq_true_eq] at this
    refine ⟨i, (headerIndex_eq_some_iff.mp hi).1,
      fun j hj => this.1 j (List.getElem?_eq_some_iff.mp hj).1 hj, fun k h₁ h₂ => ?_⟩
    simpa [List.getElem?_eq_getElem h₁, List.getElem?_eq_getElem h₂] using this.2 k h₂

end Acb.Qt
