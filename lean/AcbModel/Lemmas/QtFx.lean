/-
  The FX tracker is followed through `booked p`: the USD of the FX rows emitted so far plus that of
  a pending first FXT leg.  Each operation changes it by the USD cash of the row it is given (C18).
-/
import AcbModel.Broker.Spec
import AcbModel.Lemmas.SumOver
import AcbModel.Lemmas.Rats

namespace Acb.Qt

theorem cad_ne_usd : ("CAD" : String) ≠ "USD" := by decide

theorem fxSum_eq_sumOver (p : Account → Bool) (l : List BTx) :
    fxSum p l = Costs.sumOver l fun t => if p t.account then signedShares t else 0 := by
  induction l with
  | nil => rfl
  | cons t ts ih => rw [fxSum, ih, Costs.sumOver_cons]

theorem fxSum_snoc (p : Account → Bool) (a : List BTx) (t : BTx) :
    fxSum p (a ++ [t]) = fxSum p a + (if p t.account then signedShares t else 0) := by
  simp only [fxSum_eq_sumOver, Costs.sumOver_append, Costs.sumOver_cons, Costs.sumOver_nil, Rat.add_zero]

/-- USD the tracker has accounted for in the accounts `p`: the FX rows it emitted and a pending
    first FXT leg. -/
def Tracker.booked (p : Account → Bool) (fx : Tracker) : Rat :=
  fxSum p fx.txs + pending p fx.adjacent

theorem Tracker.booked_of_none (p : Account → Bool) {fx : Tracker} (h : fx.adjacent = none) :
    fx.booked p = fxSum p fx.txs := by
  rw [Tracker.booked, h, pending, Rat.add_zero]

theorem Tracker.booked_init (p : Account → Bool) : ({} : Tracker).booked p = 0 :=
  Tracker.booked_of_none p rfl

theorem Tracker.booked_snoc (p : Account → Bool) (fx : Tracker) (t : BTx) :
    ({ fx with txs := fx.txs ++ [t] } : Tracker).booked p =
      fx.booked p + (if p t.account then signedShares t else 0) := by
  simp only [Tracker.booked, fxSum_snoc]
  rw [Rat.add_assoc, Rat.add_assoc, Rat.add_comm (pending p fx.adjacent)]

section FxRow
variable {t : BTx}

theorem FxRow.security (h : FxRow t) : t.security = "USD.FX" := h.1
theorem FxRow.currency (h : FxRow t) : t.currency = "USD" := h.2.1
theorem FxRow.price (h : FxRow t) : t.price = 1 := h.2.2.1
theorem FxRow.commission (h : FxRow t) : t.commission = 0 := h.2.2.2.1
theorem FxRow.shares_nonneg (h : FxRow t) : 0 ≤ t.shares := h.2.2.2.2.1
theorem FxRow.rate_pos (h : FxRow t) {r : Rat} (hr : t.rate = some r) : 0 < r := h.2.2.2.2.2 r hr

end FxRow

section fxTx
variable {cur : String} {d : Nat} {s : String} {amt : Rat} {reg : Bool} {row : Nat}
  {acct : Account} {rate : Option Rat} {memo : String} {t : BTx}

/-- the row `fx_tx` builds for an amount in USD -/
def fxRowOf (d : Nat) (s : String) (amt : Rat) (reg : Bool) (row : Nat) (acct : Account)
    (rate : Option Rat) (memo : String) : BTx :=
  { security := "USD.FX", tradeDate := d, settleDate := d, tradeStr := s, settleStr := s
    side := if 0 < amt then .buy else .sell, price := 1, shares := rabs amt, commission := 0
    currency := "USD", memo := acct.memo ++ "; " ++ memo, rate := rate, registered := reg, row := row
    account := acct
    tiebreak := some (if 0 < amt then Gen.qtFxTiebreakBuy else Gen.qtFxTiebreakSell) }

theorem fxTx_eq_ok_iff :
    fxTx cur d s amt reg row acct rate memo = .ok t ↔
      cur = "USD" ∧ t = fxRowOf d s amt reg row acct rate memo := by
  unfold fxTx
  by_cases hc : cur = "USD"
  · subst hc
    rw [if_pos rfl, show "USD" ++ ".FX" = "USD.FX" by decide]
    exact ⟨fun h => ⟨rfl, (Except.ok.inj h).symm⟩, fun h => congrArg Except.ok h.2.symm⟩
  · rw [if_neg hc]
    exact ⟨nofun, fun h => absurd h.1 hc⟩

theorem fxRowOf_account : (fxRowOf d s amt reg row acct rate memo).account = acct := rfl

theorem signedShares_fxRowOf : signedShares (fxRowOf d s amt reg row acct rate memo) = amt := by
  simp only [signedShares, fxRowOf, rabs]
  -- sign × |amt| = amt
  grind

theorem fxRowOf_FxRow (hr : ∀ r, rate = some r → 0 < r) : FxRow (fxRowOf d s amt reg row acct rate memo) :=
  ⟨rfl, rfl, rfl, rfl, rabs_nonneg _, hr⟩

end fxTx

theorem fxt_legs (adj r : FxtRow) :
    (fxtCad adj r = adj ∧ fxtOther adj r = r) ∨ (fxtCad adj r = r ∧ fxtOther adj r = adj) := by
  unfold fxtCad fxtOther
  split <;> simp

/-- the pairing checks of `add_fxt_row`; `row` is the number of the second row -/
structure Paired (cad usd : FxtRow) (row : Nat) (tx : BTx) : Prop where
  cadCur : cad.currency = "CAD"
  usdCur : usd.currency = "USD"
  sameDate : usd.tradeDate = cad.tradeDate
  sameAff : usd.registered = cad.registered
  sameAcct : usd.account = cad.account
  notSameSign : ¬ 0 < cad.amount * usd.amount
  cadNe : cad.amount ≠ 0
  usdNe : usd.amount ≠ 0
  built : tx = fxRowOf usd.tradeDate usd.tradeStr usd.amount usd.registered row usd.account
            (some (rabs (cad.amount / usd.amount))) "FXT"

theorem addFxtRow_first {t : Tracker} {r : FxtRow} (h : t.adjacent = none) :
    addFxtRow t r = ({ t with adjacent := some r }, none) := by
  simp only [addFxtRow, h]

theorem addFxtRow_second {t : Tracker} {adj r : FxtRow} (h : t.adjacent = some adj) :
    (∃ tx, Paired (fxtCad adj r) (fxtOther adj r) r.row tx ∧
      addFxtRow t r = ({ adjacent := none, txs := t.txs ++ [tx] }, none)) ∨
    (∃ e, addFxtRow t r = ({ t with adjacent := none }, some e)) := by
  simp only [addFxtRow, h]
  -- a check that fails drops the pending leg and reports an error
  let P (res : Tracker × Option ErrKind) :=
    (∃ tx, Paired (fxtCad adj r) (fxtOther adj r) r.row tx ∧
      res = ({ adjacent := none, txs := t.txs ++ [tx] }, none)) ∨
    ∃ e, res = ({ t with adjacent := none }, some e)
  show P _
  refine iteInduction (fun hcur => ?_) fun _ => Or.inr ⟨_, rfl⟩
  refine iteInduction (fun hdate => ?_) fun _ => Or.inr ⟨_, rfl⟩
  refine iteInduction (fun hacct => ?_) fun _ => Or.inr ⟨_, rfl⟩
  refine iteInduction (fun _ => Or.inr ⟨_, rfl⟩) fun hsign => ?_
  refine iteInduction (fun _ => Or.inr ⟨_, rfl⟩) fun hzero => ?_
  split
  · rename_i tx htx
    obtain ⟨hu, rfl⟩ := fxTx_eq_ok_iff.mp htx
    exact Or.inl ⟨_,
      { cadCur := hcur.1, usdCur := hu, sameDate := hdate, sameAff := hacct.1, sameAcct := hacct.2,
        notSameSign := hsign, cadNe := fun hc => hzero (Or.inl hc),
        usdNe := fun hc => hzero (Or.inr hc), built := rfl }, rfl⟩
  · exact Or.inr ⟨_, rfl⟩

section Paired
variable {cad usd : FxtRow} {row : Nat} {tx : BTx}

theorem Paired.rate_pos (hp : Paired cad usd row tx) : 0 < rabs (cad.amount / usd.amount) :=
  rabs_pos (div_ne_zero_of_ne hp.cadNe hp.usdNe)

theorem Paired.tx_rate (hp : Paired cad usd row tx) : tx.rate = some (rabs (cad.amount / usd.amount)) :=
  hp.built ▸ rfl

theorem Paired.tx_shares (hp : Paired cad usd row tx) : tx.shares = rabs usd.amount := hp.built ▸ rfl

theorem Paired.tx_signedShares (hp : Paired cad usd row tx) : signedShares tx = usd.amount :=
  hp.built ▸ signedShares_fxRowOf

theorem Paired.rate_mul_shares (hp : Paired cad usd row tx) :
    rabs (cad.amount / usd.amount) * tx.shares = rabs cad.amount := by
  rw [hp.tx_shares, rabs_div_mul hp.usdNe]

theorem Paired.shares_ne (hp : Paired cad usd row tx) : tx.shares ≠ 0 :=
  fun h => hp.usdNe (rabs_eq_zero (hp.tx_shares ▸ h))

theorem Paired.fxRow (hp : Paired cad usd row tx) : FxRow tx :=
  hp.built ▸ fxRowOf_FxRow fun _ hx => Option.some.inj hx ▸ hp.rate_pos

end Paired

theorem Paired.usdLeg {adj r : FxtRow} {tx : BTx} (hp : Paired (fxtCad adj r) (fxtOther adj r) r.row tx)
    (p : Account → Bool) :
    pending p (some adj) + (if r.currency = "USD" ∧ p r.account then r.amount else 0) =
      if p tx.account then signedShares tx else 0 := by
  have hcad := hp.cadCur
  have husd := hp.usdCur
  rw [hp.tx_signedShares, hp.built, fxRowOf_account]
  -- whichever of the two rows is the USD leg, the other one is in CAD and counts nothing
  rcases fxt_legs adj r with ⟨hc, ho⟩ | ⟨hc, ho⟩
  · rw [hc] at hcad
    rw [ho] at husd ⊢
    simp [pending, hcad, husd, cad_ne_usd, Rat.zero_add]
  · rw [hc] at hcad
    rw [ho] at husd ⊢
    simp [pending, hcad, husd, cad_ne_usd, Rat.add_zero]

theorem addFxtRow_mem {fx : Tracker} {r : FxtRow} {t : BTx} (h : t ∈ (addFxtRow fx r).1.txs) :
    t ∈ fx.txs ∨ (FxRow t ∧ t.shares ≠ 0) := by
  cases ha : fx.adjacent with
  | none =>
    rw [addFxtRow_first ha] at h
    exact Or.inl h
  | some adj =>
    rcases addFxtRow_second (r := r) ha with ⟨tx, hp, he⟩ | ⟨e, he⟩ <;> rw [he] at h
    · rcases List.mem_append.mp h with h | h
      · exact Or.inl h
      · cases List.mem_singleton.mp h
        exact Or.inr ⟨hp.fxRow, hp.shares_ne⟩
    · exact Or.inl h

theorem addFxtRow_booked (p : Account → Bool) {fx : Tracker} {r : FxtRow} (h : (addFxtRow fx r).2 = none) :
    (addFxtRow fx r).1.booked p =
      fx.booked p + (if r.currency = "USD" ∧ p r.account then r.amount else 0) := by
  cases ha : fx.adjacent with
  | none => simp only [addFxtRow_first ha, Tracker.booked, ha, pending, Rat.add_zero]
  | some adj =>
    rcases addFxtRow_second (r := r) ha with ⟨tx, hp, he⟩ | ⟨e, he⟩ <;> rw [he] at h ⊢
    · simp only [Tracker.booked, ha, fxSum_snoc]
      rw [Rat.add_assoc _ (pending p (some adj)), hp.usdLeg p, pending, Rat.add_zero]
    · cases h

theorem addImplicit_cases (fx : Tracker) (tx : BTx) :
    (implicitAmount tx = 0 ∧ addImplicit fx tx = (fx, none)) ∨
    (implicitAmount tx ≠ 0 ∧ tx.currency = "USD" ∧
      addImplicit fx tx = ({ fx with txs := fx.txs ++
        [fxRowOf tx.tradeDate tx.tradeStr (implicitAmount tx) tx.registered tx.row tx.account none
          ("from " ++ tx.security ++ " " ++ tx.side.text)] }, none)) ∨
    (∃ e, addImplicit fx tx = (fx, some e)) := by
  unfold addImplicit
  split
  · exact Or.inl ⟨‹_›, rfl⟩
  · right
    split
    · rename_i f hf
      obtain ⟨hu, rfl⟩ := fxTx_eq_ok_iff.mp hf
      exact Or.inl ⟨‹_›, hu, rfl⟩
    · exact Or.inr ⟨_, rfl⟩

theorem addImplicit_mem {fx : Tracker} {tx t : BTx} (h : t ∈ (addImplicit fx tx).1.txs) :
    t ∈ fx.txs ∨ (FxRow t ∧ t.shares ≠ 0) := by
  rcases addImplicit_cases fx tx with ⟨_, he⟩ | ⟨hz, _, he⟩ | ⟨e, he⟩ <;> rw [he] at h
  · exact Or.inl h
  · rcases List.mem_append.mp h with h | h
    · exact Or.inl h
    · cases List.mem_singleton.mp h
      exact Or.inr ⟨fxRowOf_FxRow nofun, fun h0 => hz (rabs_eq_zero h0)⟩
  · exact Or.inl h

theorem addImplicit_booked (p : Account → Bool) {fx : Tracker} {tx : BTx} (h : (addImplicit fx tx).2 = none) :
    (addImplicit fx tx).1.booked p =
      fx.booked p + (if tx.currency = "USD" ∧ p tx.account then implicitAmount tx else 0) := by
  rcases addImplicit_cases fx tx with ⟨hz, he⟩ | ⟨_, hu, he⟩ | ⟨e, he⟩ <;> rw [he] at h ⊢
  · rw [hz, ite_self, Rat.add_zero]
  · simp only [Tracker.booked_snoc, signedShares_fxRowOf, fxRowOf_account, hu, true_and]
  · cases h

end Acb.Qt
