/-
  Replaying the summary rows of an affiliate on a tracker that has no status for it yet gives that
  affiliate exactly the summarised shares and cost base; so the simple-mode summary of a tracker,
  replayed on the empty tracker, gives a tracker that agrees with it on every observable.
-/
import AcbModel.Lemmas.SumInv
import AcbModel.Lemmas.Observables
import AcbModel.App.Summary
namespace Acb

def pricePer (sh : Rat) (acb : Option Rat) : Rat :=
  match acb with
  | some c => c / sh
  | none => 0

def zeroRowsOf (day : Int) (a : Aff) (acb : Option Rat) : List Tx :=
  match acb with
  | some c => if 0 < c then [{ trade := day, settle := day, idx := 0, aff := a, act := .sfla 1 c }] else []
  | none => []

/-- the rows `make_simple_summary_txs` emits for an affiliate holding `sh` shares with cost base
    `acb` (`none` = registered), dated `day` -/
def summaryRowsOf (day : Int) (a : Aff) (sh : Rat) (acb : Option Rat) : List Tx :=
  if 0 < sh then
    [{ trade := day, settle := day, idx := 0, aff := a, act := .buy sh (pricePer sh acb) 0 1 none }]
  else zeroRowsOf day a acb

theorem simpleSummary_shape (af : Aff) (d : Delta) :
    simpleSummary af d = summaryRowsOf d.tx.settle af d.post.shares d.post.acb := rfl

theorem summaryRowsOf_cases (day : Int) (a : Aff) (sh : Rat) (acb : Option Rat) :
    summaryRowsOf day a sh acb = [] ∨
      ∃ act, summaryRowsOf day a sh acb = [{ trade := day, settle := day, idx := 0, aff := a, act := act }] := by
  unfold summaryRowsOf zeroRowsOf
  split
  · exact .inr ⟨_, rfl⟩
  · split
    · split
      · exact .inr ⟨_, rfl⟩
      · exact .inl rfl
    · exact .inl rfl

theorem summaryRowsOf_mem {day : Int} {a : Aff} {sh : Rat} {acb : Option Rat} {y : Tx}
    (hy : y ∈ summaryRowsOf day a sh acb) :
    ∃ act, y = { trade := day, settle := day, idx := 0, aff := a, act := act } := by
  rcases summaryRowsOf_cases day a sh acb with h | ⟨act, h⟩ <;> rw [h] at hy
  · cases hy
  · exact ⟨act, List.mem_singleton.mp hy⟩

theorem summaryRowsOf_default (day : Int) (a : Aff) : summaryRowsOf day a 0 (defaultStatus a).acb = [] := by
  have : ¬ (0 : Rat) < 0 := by decide
  cases hr : a.registered <;> simp [summaryRowsOf, zeroRowsOf, defaultStatus, hr, this]

/-- what the replay needs of the tracker -/
structure FreshInv (c : Tracker) : Prop where
  allNonneg : 0 ≤ c.latestAll
  latest : c.latestPostAll = c.latestAll

/-- the simple-mode summary of a tracker state: per affiliate of `As`, the rows for its shares and
    cost base, dated `day a` -/
def summaryOfTracker (tP : Tracker) (day : Aff → Int) (As : List Aff) : List Tx :=
  As.flatMap (fun a => summaryRowsOf (day a) a (tP.bal a) (tP.acbOf a))

/-- what `summaryOfTracker` needs of the summarised tracker: per affiliate a well-formed status -/
structure StatusesOk (tP : Tracker) : Prop where
  nonneg : ∀ a, 0 ≤ tP.bal a
  reg : ∀ a, (tP.acbOf a).isNone = a.registered
  acb : ∀ a v, tP.acbOf a = some v → 0 ≤ v

/-- What replaying summary rows achieves: from the tracker `c`, the rows run without failure to the
    tracker `c2`, with deltas `ds`, and generate nothing; they give the affiliates of `S` the balances
    and cost bases they have in `tP` and leave the others alone. -/
structure SummaryDone (tP c : Tracker) (S : List Aff) (rows past r : List Tx) (c2 : Tracker) (ds : List Delta) :
    Prop where
  runs : Runs r c past rows ds (.inl (c2, rows.reverse ++ past))
  fresh : FreshInv c2
  bal : ∀ x, c2.bal x = if x ∈ S then tP.bal x else c.bal x
  acbOf : ∀ x, c2.acbOf x = if x ∈ S then tP.acbOf x else c.acbOf x
  m : ∀ x, x ∉ S → c2.m x = c.m x
  all : c2.latestAll = c.latestAll + sumOver S tP.bal
  len : ds.length = rows.length

theorem SummaryDone.nil (tP : Tracker) {c : Tracker} (hc : FreshInv c) (past r : List Tx) :
    SummaryDone tP c [] [] past r c [] :=
  ⟨.done, hc, by simp, by simp, fun _ _ => rfl, (Rat.add_zero _).symm, rfl⟩

theorem SummaryDone.append {tP c c1 c2 : Tracker} {S1 S2 : List Aff} {rows1 rows2 past r : List Tx}
    {ds1 ds2 : List Delta} (h1 : SummaryDone tP c S1 rows1 past (rows2 ++ r) c1 ds1)
    (h2 : SummaryDone tP c1 S2 rows2 (rows1.reverse ++ past) r c2 ds2) :
    SummaryDone tP c (S1 ++ S2) (rows1 ++ rows2) past r c2 (ds1 ++ ds2) where
  runs := by simpa [List.reverse_append] using h1.runs.append h2.runs
  fresh := h2.fresh
  bal := fun x => by
    rw [h2.bal, h1.bal]
    by_cases hx1 : x ∈ S1 <;> by_cases hx2 : x ∈ S2 <;> simp [hx1, hx2]
  acbOf := fun x => by
    rw [h2.acbOf, h1.acbOf]
    by_cases hx1 : x ∈ S1 <;> by_cases hx2 : x ∈ S2 <;> simp [hx1, hx2]
  m := fun x hx => by
    rw [List.mem_append, not_or] at hx
    rw [h2.m x hx.2, h1.m x hx.1]
  all := by rw [h2.all, h1.all, Rat.add_assoc, sumOver_append]
  len := by simp [h1.len, h2.len]

theorem summaryRowsOf_arm {a : Aff} {s : Status} (hs : StatusOk a s) (day : Int) :
    (summaryRowsOf day a s.shares s.acb = [] ∧ s.shares = 0 ∧ s.acb = (defaultStatus a).acb) ∨
      ∃ row, summaryRowsOf day a s.shares s.acb = [row] ∧ row.aff = a ∧ row.act.isSell = false ∧
        ∀ (c : Tracker) (all : Rat) (past r : List Tx),
          arm c row { shares := 0, all := all, acb := (defaultStatus a).acb } past r =
            .ok { post := { shares := s.shares, all := all + s.shares, acb := s.acb } } := by
  have hd : (defaultStatus a).acb = s.acb.map fun _ => 0 := by
    cases hacb : s.acb <;> simp [defaultStatus, ← hs.reg, hacb]
  rw [hd]
  unfold summaryRowsOf
  by_cases hpos : 0 < s.shares
  · rw [if_pos hpos]
    refine .inr ⟨_, rfl, rfl, rfl, fun c all past r => ?_⟩
    rw [arm_buy rfl]
    cases s.acb <;> simp [postOf, pricePer, Rat.div_mul_cancel (Rat.ne_of_gt hpos), Rat.zero_add, Rat.add_zero]
  · have hb : s.shares = 0 := Rat.le_antisymm (Rat.not_lt.mp hpos) hs.sh
    rw [if_neg hpos]
    unfold zeroRowsOf
    cases hacb : s.acb with
    | none => exact .inl ⟨rfl, hb, rfl⟩
    | some cv =>
      by_cases hcp : 0 < cv
      · simp only [hcp, if_true]
        refine .inr ⟨_, rfl, rfl, rfl, fun c all past r => ?_⟩
        rw [arm_sfla rfl]
        exact armSfla_ok_iff.mpr
          ⟨by simpa [hacb] using hs.reg.symm, rfl, by simp [postOf, hb, Rat.zero_add, Rat.add_zero]⟩
      · simp only [hcp, if_false]
        exact .inl ⟨trivial, hb, by simp [Rat.le_antisymm (Rat.not_lt.mp hcp) (hs.acb cv hacb)]⟩

theorem summaryRows_done {tP c : Tracker} (hP : StatusesOk tP) (hc : FreshInv c) {a : Aff} (hm : c.m a = none)
    (day : Int) (past r : List Tx) :
    ∃ c2 ds, SummaryDone tP c [a] (summaryRowsOf day a (tP.bal a) (tP.acbOf a)) past r c2 ds := by
  rcases summaryRowsOf_arm (s := ⟨tP.bal a, 0, tP.acbOf a⟩) ⟨hP.reg a, hP.nonneg a, hP.acb a⟩ day with
    ⟨h0, (hb : tP.bal a = 0), (hd : tP.acbOf a = _)⟩ | ⟨row, h1, rfl, -, harm⟩
  · rw [h0]
    refine ⟨c, [], .done, hc, fun x => ?_, fun x => ?_, fun _ _ => rfl, ?_, rfl⟩
    · by_cases hx : x = a
      · simp [hx, bal_of_none hm, hb]
      · simp [hx]
    · by_cases hx : x = a
      · simp [hx, acbOf_of_none hm, hd]
      · simp [hx]
    · rw [sumOver_cons, sumOver_nil, hb, Rat.add_zero, Rat.add_zero]
  · rw [h1]
    refine ⟨_, [_], .step (stepRow_fresh hm hc.allNonneg (harm c _ past r) (hP.reg _).symm rfl) .done,
      ⟨by rw [put_latestAll]; exact Rat.add_nonneg hc.allNonneg (hP.nonneg _), by simp⟩, fun x => ?_, fun x => ?_,
      fun x hx => upd_of_ne _ _ (hx ∘ List.mem_singleton.mpr),
      by rw [put_latestAll, sumOver_cons, sumOver_nil, Rat.add_zero], rfl⟩
    · by_cases hx : x = row.aff <;> simp [hx]
    · by_cases hx : x = row.aff <;> simp [hx]

theorem summaryOfTracker_runs {tP : Tracker} (hP : StatusesOk tP) (day : Aff → Int) (r : List Tx) {L : List Aff}
    (hnd : L.Nodup) {c : Tracker} (past : List Tx) (hc : FreshInv c) (hfresh : ∀ a ∈ L, c.m a = none) :
    ∃ c2 ds, SummaryDone tP c L (summaryOfTracker tP day L) past r c2 ds := by
  induction L generalizing c past with
  | nil => exact ⟨c, [], .nil tP hc past r⟩
  | cons a L ih =>
    obtain ⟨haL, hnL⟩ := List.nodup_cons.mp hnd
    obtain ⟨c1, ds1, h1⟩ := summaryRows_done hP hc (hfresh a (by simp)) (day a) past (summaryOfTracker tP day L ++ r)
    obtain ⟨c2, ds2, h2⟩ := ih hnL _ h1.fresh fun b hb => by
      rw [h1.m b fun e => haL (List.mem_singleton.mp e ▸ hb)]
      exact hfresh b (by simp [hb])
    exact ⟨c2, ds1 ++ ds2, h1.append h2⟩

theorem TrackerWFOn.statusesOk {U : List Aff} {t : Tracker} (hw : TrackerWFOn U t) : StatusesOk t :=
  ⟨hw.bal_nonneg, fun a => (hw.reg a).symm,
    fun a v hv => (hw.nextPre_ok a).acb v ((nextPre_acb t a).trans hv)⟩

theorem mem_summaryOfTracker {tP : Tracker} {day : Aff → Int} {As : List Aff} {y : Tx}
    (h : y ∈ summaryOfTracker tP day As) : ∃ a ∈ As, y.settle = day a := by
  obtain ⟨a, ha, hy⟩ := List.mem_flatMap.mp h
  obtain ⟨_, rfl⟩ := summaryRowsOf_mem hy
  exact ⟨a, ha, rfl⟩

theorem summaryOfTracker_replay {As : List Aff} (hn : As.Nodup) {tP : Tracker} (hsum : SumInv As tP)
    (hsupp : Supp As tP) (hP : StatusesOk tP) (day : Aff → Int) (dflt : Aff) (r : List Tx) :
    ∃ tS dS, Runs r (.empty dflt) [] (summaryOfTracker tP day As) dS
        (.inl (tS, (summaryOfTracker tP day As).reverse)) ∧ ObsEq tP tS ∧
      dS.length = (summaryOfTracker tP day As).length := by
  obtain ⟨c2, ds, h⟩ := summaryOfTracker_runs hP day r hn (c := .empty dflt) [] ⟨Rat.le_refl, rfl⟩ (fun _ _ => rfl)
  refine ⟨c2, ds, by simpa using h.runs, ?_, h.len⟩
  have hall : c2.latestAll = tP.latestAll := by rw [h.all, hsum.total]; exact Rat.zero_add _
  refine .of_obs (fun x => ?_) hall (fun x => ?_) (by rw [h.fresh.latest, hsum.latest, hall])
  · rw [h.bal]
    split
    · rfl
    · rename_i hx
      rw [hsum.support x hx]
      rfl
  · rw [h.acbOf]
    split
    · rfl
    · rename_i hx
      rw [acbOf_of_none (hsupp x hx)]
      rfl

theorem summary_obsEq {As : List Aff} (hn : As.Nodup) {tP : Tracker} (hsum : SumInv As tP) (hsupp : Supp As tP)
    (hP : StatusesOk tP) (day : Aff → Int) (dflt : Aff) (r : List Tx) :
    ∃ tS dS, loopPrefix { m := fun _ => none, latestAll := 0, latestAff := dflt } [] [] (summaryOfTracker tP day As) r =
        .inl (tS, (summaryOfTracker tP day As).reverse, dS) ∧ ObsEq tP tS ∧
      dS.length = (summaryOfTracker tP day As).length := by
  obtain ⟨tS, dS, h, hobs, hlen⟩ := summaryOfTracker_replay hn hsum hsupp hP day dflt r
  exact ⟨tS, dS, by simpa [Tracker.empty] using h.loopPrefix [], hobs, hlen⟩

end Acb
