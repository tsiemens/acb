/-
  The loops of `txs_to_delta_list` as one relation (`Runs`), invariants along a run indexed by the
  `Spec` books (`Runs.gen`), and the first of them: every delta conforms to the average-cost rules.
-/
import AcbModel.Lemmas.Step
namespace Acb
open Spec

/-- How a run ends: with the final tracker and processed rows, or with the failure. -/
abbrev RunEnd := (Tracker × List Tx) ⊕ Failure

def RunEnd.failure : RunEnd → Option Failure
  | .inl _ => none
  | .inr f => some f

theorem RunEnd.failure_eq_some {e : RunEnd} {f : Failure} : e.failure = some f ↔ e = .inr f := by
  cases e <;> simp [RunEnd.failure]

/-- The loops of the model as one relation.  `Runs r t past p ds e`: from the tracker `t`, with
    `past` processed, the rows `p` (with `r` still to come after them) yield the deltas `ds` and
    end in `e`.  The rows a sale generates are put in front of the pending rows, as the Rust loop
    inserts them after the sale. -/
inductive Runs (r : List Tx) : Tracker → List Tx → List Tx → List Delta → RunEnd → Prop
  | done {t past} : Runs r t past [] [] (.inl (t, past))
  | fail {t past x p f} : stepRow t x past (p ++ r) = .error f → Runs r t past (x :: p) [] (.inr f)
  | step {t past x p d t' inj ds e} : stepRow t x past (p ++ r) = .ok (d, t', inj) →
      Runs r t' (x :: past) (inj ++ p) ds e → Runs r t past (x :: p) (d :: ds) e

theorem Runs.unique {r : List Tx} {t : Tracker} {past p : List Tx} {ds ds' : List Delta}
    {e e' : RunEnd} (h : Runs r t past p ds e) (h' : Runs r t past p ds' e') : ds = ds' ∧ e = e' := by
  induction h generalizing ds' e' with
  | done => cases h'; exact ⟨rfl, rfl⟩
  | fail hs =>
    cases h' with
    | fail hs' => rw [hs] at hs'; cases hs'; exact ⟨rfl, rfl⟩
    | step hs' _ => rw [hs] at hs'; cases hs'
  | step hs _ ih =>
    cases h' with
    | fail hs' => rw [hs] at hs'; cases hs'
    | step hs' hr' =>
      rw [hs] at hs'; cases hs'
      obtain ⟨rfl, rfl⟩ := ih hr'
      exact ⟨rfl, rfl⟩

private theorem Runs.append_cases {r q : List Tx} {t : Tracker} {past p : List Tx} {ds : List Delta}
    {e : RunEnd} (h : Runs (q ++ r) t past p ds e) :
    (∀ t' past', e = .inl (t', past') → ∀ {ds' e'}, Runs r t' past' q ds' e' →
      Runs r t past (p ++ q) (ds ++ ds') e') ∧
    (∀ f, e = .inr f → Runs r t past (p ++ q) ds (.inr f)) := by
  induction h with
  | done => exact ⟨fun _ _ he _ _ h' => (by cases he; exact h'), nofun⟩
  | fail hs => exact ⟨nofun, fun _ he => (by cases he; exact .fail (by simpa using hs))⟩
  | step hs _ ih =>
    have hs' := hs
    rw [← List.append_assoc] at hs'
    exact ⟨fun _ _ he _ _ h' => .step hs' (by simpa using ih.1 _ _ he h'),
      fun _ he => .step hs' (by simpa using ih.2 _ he)⟩

theorem Runs.append {r q : List Tx} {t t' : Tracker} {past past' p : List Tx} {ds ds' : List Delta}
    {e : RunEnd} (h : Runs (q ++ r) t past p ds (.inl (t', past'))) (h' : Runs r t' past' q ds' e) :
    Runs r t past (p ++ q) (ds ++ ds') e :=
  h.append_cases.1 _ _ rfl h'

theorem Runs.append_fail {r q : List Tx} {t : Tracker} {past p : List Tx} {ds : List Delta}
    {f : Failure} (h : Runs (q ++ r) t past p ds (.inr f)) : Runs r t past (p ++ q) ds (.inr f) :=
  h.append_cases.2 _ rfl

/-- `runInjected` is `Runs`: the generated rows are SfLA rows, and those generate nothing. -/
theorem runInjected_runs :
    ∀ (inj : List Tx), (∀ x ∈ inj, x.act.isSell = false) →
    ∀ (t : Tracker) (past : List Tx) (acc : List Delta) (fut : List Tx),
      ∃ ds e, Runs fut t past inj ds e ∧
        runInjected t past acc inj fut =
          match e with
          | .inl (t', past') => .inl (t', past', acc ++ ds)
          | .inr f => .inr (acc ++ ds, f) := by
  intro inj
  induction inj with
  | nil => intro _ t past acc fut; exact ⟨[], _, .done, by simp [runInjected]⟩
  | cons x xs ih =>
    intro hinj t past acc fut
    simp only [runInjected]
    cases hs : stepRow t x past (xs ++ fut) with
    | error f => exact ⟨[], _, .fail hs, by simp⟩
    | ok res =>
      obtain ⟨d, t', inj'⟩ := res
      cases stepRow_inj_nil (hinj x (by simp)) hs
      obtain ⟨ds, e, hr, he⟩ := ih (fun y hy => hinj y (by simp [hy])) t' (x :: past) (acc ++ [d]) fut
      refine ⟨d :: ds, e, .step hs hr, ?_⟩
      cases e <;> simpa using he

/-- The state of the loop of `txs_to_delta_list` after the rows `q` (followed by `r`):
    tracker, processed rows (most recent first), deltas so far — or the failure. -/
def loopPrefix : Tracker → List Tx → List Delta → List Tx → List Tx →
    (Tracker × List Tx × List Delta) ⊕ (List Delta × Failure)
  | t, past, acc, [], _ => .inl (t, past, acc)
  | t, past, acc, x :: q, r =>
    match stepRow t x past (q ++ r) with
    | .error f => .inr (acc, f)
    | .ok (d, t', inj) =>
      match runInjected t' (x :: past) (acc ++ [d]) inj (q ++ r) with
      | .inr e => .inr e
      | .inl (t'', past', acc') => loopPrefix t'' past' acc' q r

theorem loopPrefix_runs :
    ∀ (q r : List Tx) (t : Tracker) (past : List Tx) (acc : List Delta),
      ∃ ds e, Runs r t past q ds e ∧
        loopPrefix t past acc q r =
          match e with
          | .inl (t', past') => .inl (t', past', acc ++ ds)
          | .inr f => .inr (acc ++ ds, f) := by
  intro q
  induction q with
  | nil => intro r t past acc; exact ⟨[], _, .done, by simp [loopPrefix]⟩
  | cons x q ih =>
    intro r t past acc
    simp only [loopPrefix]
    cases hs : stepRow t x past (q ++ r) with
    | error f => exact ⟨[], _, .fail hs, by simp⟩
    | ok res =>
      obtain ⟨d, t', inj⟩ := res
      obtain ⟨ds1, e1, hr1, he1⟩ := runInjected_runs inj (fun y hy => (stepRow_inj hs y hy).isSell)
        t' (x :: past) (acc ++ [d]) (q ++ r)
      simp only [he1]
      cases e1 with
      | inr f => exact ⟨d :: ds1, _, .step hs hr1.append_fail, by simp⟩
      | inl s =>
        obtain ⟨t'', past''⟩ := s
        obtain ⟨ds2, e2, hr2, he2⟩ := ih r t'' past'' (acc ++ [d] ++ ds1)
        refine ⟨d :: (ds1 ++ ds2), e2, .step hs (hr1.append hr2), ?_⟩
        cases e2 <;> simpa using he2

theorem Runs.exists (r : List Tx) (t : Tracker) (past p : List Tx) : ∃ ds e, Runs r t past p ds e :=
  let ⟨ds, e, h, _⟩ := loopPrefix_runs p r t past []
  ⟨ds, e, h⟩

theorem deltaLoop_eq_loopPrefix :
    ∀ (txs : List Tx) (t : Tracker) (past : List Tx) (acc : List Delta),
      deltaLoop t past acc txs =
        match loopPrefix t past acc txs [] with
        | .inl (_, _, acc') => (acc', none)
        | .inr (acc', f) => (acc', some f) := by
  intro txs
  induction txs with
  | nil => intro t past acc; rfl
  | cons x txs ih =>
    intro t past acc
    simp only [deltaLoop, loopPrefix, List.append_nil]
    cases stepRow t x past txs with
    | error f => rfl
    | ok res =>
      obtain ⟨d, t', inj⟩ := res
      simp only
      cases runInjected t' (x :: past) (acc ++ [d]) inj txs with
      | inr e => rfl
      | inl s => exact ih _ _ _

theorem deltaLoop_runs (txs : List Tx) (t : Tracker) (past : List Tx) (acc : List Delta) :
    ∃ ds e, Runs [] t past txs ds e ∧ deltaLoop t past acc txs = (acc ++ ds, e.failure) := by
  obtain ⟨ds, e, hr, he⟩ := loopPrefix_runs txs [] t past acc
  refine ⟨ds, e, hr, ?_⟩
  rw [deltaLoop_eq_loopPrefix, he]
  cases e <;> rfl

theorem Runs.deltaLoop {t : Tracker} {past txs : List Tx} {ds : List Delta} {e : RunEnd}
    (h : Runs [] t past txs ds e) (acc : List Delta) :
    deltaLoop t past acc txs = (acc ++ ds, e.failure) := by
  obtain ⟨ds', e', h', he⟩ := deltaLoop_runs txs t past acc
  obtain ⟨rfl, rfl⟩ := h.unique h'
  exact he

theorem deltaLoop_acc (future : List Tx) (t : Tracker) (past : List Tx) (acc : List Delta) :
    deltaLoop t past acc future =
      (acc ++ (deltaLoop t past [] future).1, (deltaLoop t past [] future).2) := by
  obtain ⟨ds, e, hr, he⟩ := deltaLoop_runs future t past acc
  rw [he, hr.deltaLoop []]
  rfl

theorem deltaList_nil (dflt : Aff) (init : Option Status) : deltaList dflt init [] = ([], none) := rfl

theorem deltaList_eq_loop {dflt : Aff} {init : Option Status} {t : Tracker}
    (h : Tracker.new dflt init = .ok t) (txs : List Tx) :
    deltaList dflt init txs = deltaLoop t [] [] txs := by
  unfold deltaList
  cases txs with
  | nil => simp [deltaLoop]
  | cons x xs => simp only [h]

theorem deltaList_runs (dflt : Aff) (init : Option Status) {txs : List Tx} (hne : txs ≠ []) :
    (∃ f, Tracker.new dflt init = .error f ∧ deltaList dflt init txs = ([], some f)) ∨
    ∃ t ds e, Tracker.new dflt init = .ok t ∧ Runs [] t [] txs ds e ∧
      deltaList dflt init txs = (ds, e.failure) := by
  unfold deltaList
  cases txs with
  | nil => exact absurd rfl hne
  | cons x xs =>
    cases hn : Tracker.new dflt init with
    | error f => exact .inl ⟨f, rfl, rfl⟩
    | ok t =>
      obtain ⟨ds, e, hr, he⟩ := deltaLoop_runs (x :: xs) t [] []
      exact .inr ⟨t, ds, e, rfl, hr, by simpa using he⟩

theorem Runs.deltaLoop_append {r q : List Tx} {t : Tracker} {past : List Tx} {ds : List Delta} {e : RunEnd}
    (h : Runs r t past q ds e) (acc : List Delta) :
    Acb.deltaLoop t past acc (q ++ r) =
      match (generalizing := false) e with
      | .inl (t', past') => Acb.deltaLoop t' past' (acc ++ ds) r
      | .inr f => (acc ++ ds, some f) := by
  have h' : Runs (r ++ []) t past q ds e := by rwa [List.append_nil]
  cases e with
  | inr f => exact h'.append_fail.deltaLoop acc
  | inl s =>
    obtain ⟨t', past'⟩ := s
    obtain ⟨ds2, e2, h2, he2⟩ := deltaLoop_runs r t' past' (acc ++ ds)
    simp only [he2, (h'.append h2).deltaLoop acc, List.append_assoc]

theorem deltaList_of_runs {dflt : Aff} {init : Option Status} {t0 : Tracker} (ht0 : Tracker.new dflt init = .ok t0)
    {q r : List Tx} {t : Tracker} {past : List Tx} {ds ds' : List Delta} {e : RunEnd}
    (h1 : Runs r t0 [] q ds (.inl (t, past))) (h2 : Runs [] t past r ds' e) :
    deltaList dflt init (q ++ r) = (ds ++ ds', e.failure) := by
  rw [deltaList_eq_loop ht0, h1.deltaLoop_append]
  exact h2.deltaLoop _

theorem Runs.congr_tail {r r' : List Tx}
    (hc : ∀ t x past w, stepRow t x past (w ++ r') = stepRow t x past (w ++ r))
    {t : Tracker} {past p : List Tx} {ds : List Delta} {e : RunEnd} (h : Runs r t past p ds e) :
    Runs r' t past p ds e := by
  induction h with
  | done => exact .done
  | fail hs => exact .fail (by rw [hc]; exact hs)
  | step hs _ ih => exact .step (by rw [hc]; exact hs) ih

theorem Runs.loopPrefix {r : List Tx} {t t2 : Tracker} {past past2 q : List Tx} {ds : List Delta}
    (h : Runs r t past q ds (.inl (t2, past2))) (acc : List Delta) :
    loopPrefix t past acc q r = .inl (t2, past2, acc ++ ds) := by
  obtain ⟨ds', e', h', he⟩ := loopPrefix_runs q r t past acc
  obtain ⟨rfl, rfl⟩ := h.unique h'
  exact he

theorem loopPrefix_inl {r : List Tx} {t t2 : Tracker} {past past2 q : List Tx} {acc acc2 : List Delta}
    (h : loopPrefix t past acc q r = .inl (t2, past2, acc2)) :
    ∃ ds, Runs r t past q ds (.inl (t2, past2)) ∧ acc2 = acc ++ ds := by
  obtain ⟨ds, e, hr, he⟩ := loopPrefix_runs q r t past acc
  rw [h] at he
  cases e with
  | inr f => cases he
  | inl s => cases he; exact ⟨ds, hr, rfl⟩

theorem Runs.split {r : List Tx} {t t2 : Tracker} {past past2 p q : List Tx} {ds : List Delta}
    (h : Runs r t past (p ++ q) ds (.inl (t2, past2))) :
    ∃ ds1 ds2 t1 past1, ds = ds1 ++ ds2 ∧ Runs (q ++ r) t past p ds1 (.inl (t1, past1)) ∧
      Runs r t1 past1 q ds2 (.inl (t2, past2)) := by
  obtain ⟨ds1, e1, h1⟩ := Runs.exists (q ++ r) t past p
  cases e1 with
  | inr f => cases (h.unique h1.append_fail).2
  | inl s =>
    obtain ⟨ds2, e2, h2⟩ := Runs.exists r s.1 s.2 q
    obtain ⟨rfl, rfl⟩ := h.unique (h1.append h2)
    exact ⟨ds1, ds2, s.1, s.2, rfl, h1, h2⟩

theorem Runs.past {r : List Tx} {t t2 : Tracker} {past past2 p : List Tx} {ds : List Delta}
    (h : Runs r t past p ds (.inl (t2, past2))) : past2 = (ds.map (·.tx)).reverse ++ past := by
  generalize he : (Sum.inl (t2, past2) : RunEnd) = e at h
  induction h with
  | done => cases he; rfl
  | fail => cases he
  | step hs _ ih => rw [ih he, List.map_cons, stepRow_tx hs]; simp

/-- `P` of every delta, each against the books before it. -/
def ListP (P : Books → Delta → Prop) : Books → List Delta → Prop
  | _, [] => True
  | bs, d :: ds => P bs d ∧ ListP P (stepBooks bs d.tx) ds

theorem ListP_append {P : Books → Delta → Prop} {bs : Books} {l1 l2 : List Delta} :
    ListP P bs (l1 ++ l2) ↔ ListP P bs l1 ∧ ListP P (after bs (l1.map (·.tx))) l2 := by
  induction l1 generalizing bs with
  | nil => simp [ListP, after_nil]
  | cons d ds ih => simp only [List.cons_append, ListP, List.map_cons, after_cons, ih, and_assoc]

theorem ListP_mem_inv {J : Books → Prop} (hJ : ∀ bs tx, J bs → J (stepBooks bs tx))
    {P : Books → Delta → Prop} {bs : Books} {ds : List Delta} (h0 : J bs) (h : ListP P bs ds) :
    ∀ d ∈ ds, ∃ bs', J bs' ∧ P bs' d := by
  induction ds generalizing bs with
  | nil => simp
  | cons x xs ih =>
    intro d hd
    rcases List.mem_cons.mp hd with rfl | hd
    · exact ⟨bs, h0, h.1⟩
    · exact ih (hJ bs x.tx h0) h.2 d hd

theorem ListP_mem {P : Books → Delta → Prop} {bs : Books} {ds : List Delta} (h : ListP P bs ds) :
    ∀ d ∈ ds, ∃ bs', P bs' d := fun d hd =>
  (ListP_mem_inv (J := fun _ => True) (fun _ _ _ => trivial) trivial h d hd).imp fun _ h => h.2

theorem ListP_index {P : Books → Delta → Prop} {bs : Books} {ds : List Delta} (h : ListP P bs ds)
    (i : Nat) (hi : i < ds.length) : P (after bs ((ds.take i).map (·.tx))) ds[i] := by
  induction ds generalizing bs i with
  | nil => simp at hi
  | cons d ds ih =>
    cases i with
    | zero => simpa [after_nil] using h.1
    | succ j =>
      have := ih h.2 j (by simpa using hi)
      simpa [after_cons] using this

structure StepSpec (I : Tracker → Books → Prop) (P : Books → Delta → Prop)
    (Q : Failure → Prop) (Good : Tx → Prop) : Prop where
  ok : ∀ {t bs tx past future d t' inj}, I t bs → Good tx →
    (∀ x ∈ past, Good x) → (∀ x ∈ future, Good x) →
    stepRow t tx past future = .ok (d, t', inj) →
    P bs d ∧ I t' (stepBooks bs tx) ∧ ∀ x ∈ inj, Good x
  err : ∀ {t bs tx past future f}, I t bs → Good tx →
    (∀ x ∈ past, Good x) → (∀ x ∈ future, Good x) →
    stepRow t tx past future = .error f → Q f

variable {I : Tracker → Books → Prop} {P : Books → Delta → Prop} {Q : Failure → Prop} {Good : Tx → Prop}

/-- Invariants along a run: if every iteration keeps `I` (against the `Spec` books), gives `P` of
    its delta and only fails with `Q`, on rows that are `Good` (as the generated rows then must
    be), so does the run; and `I` holds at its end. -/
theorem Runs.gen (S : StepSpec I P Q Good) {r : List Tx} {t : Tracker} {past p : List Tx}
    {ds : List Delta} {e : RunEnd} (h : Runs r t past p ds e) {bs : Books} (hi : I t bs)
    (hp : ∀ x ∈ p, Good x) (hr : ∀ x ∈ r, Good x) (hpast : ∀ x ∈ past, Good x) :
    ListP P bs ds ∧
    (∀ t' past', e = .inl (t', past') →
      I t' (after bs (ds.map (·.tx))) ∧ ∀ x ∈ past', Good x) ∧
    (∀ f, e = .inr f → Q f) := by
  induction h generalizing bs with
  | done => exact ⟨trivial, fun _ _ he => (by cases he; exact ⟨hi, hpast⟩), nofun⟩
  | fail hs =>
    obtain ⟨hx, hp⟩ := List.forall_mem_cons.mp hp
    exact ⟨trivial, nofun, fun _ he => (by
      cases he; exact S.err hi hx hpast (List.forall_mem_append.mpr ⟨hp, hr⟩) hs)⟩
  | step hs _ ih =>
    obtain ⟨hx, hp⟩ := List.forall_mem_cons.mp hp
    obtain ⟨hP, hi', hinj⟩ := S.ok hi hx hpast (List.forall_mem_append.mpr ⟨hp, hr⟩) hs
    rw [← stepRow_tx hs] at hi'
    have := ih hi' (List.forall_mem_append.mpr ⟨hinj, hp⟩) (List.forall_mem_cons.mpr ⟨hx, hpast⟩)
    exact ⟨⟨hP, this.1⟩, this.2⟩

theorem Runs.gen_end (S : StepSpec I P Q Good) {r : List Tx} {t t' : Tracker} {past past' p : List Tx}
    {ds : List Delta} (h : Runs r t past p ds (.inl (t', past'))) {bs : Books} (hi : I t bs)
    (hp : ∀ x ∈ p, Good x) (hr : ∀ x ∈ r, Good x) (hpast : ∀ x ∈ past, Good x) :
    I t' (after bs (ds.map (·.tx))) ∧ ∀ x ∈ past', Good x :=
  (h.gen S hi hp hr hpast).2.1 _ _ rfl

theorem deltaList_gen (S : StepSpec I P Q Good) (dflt : Aff) (init : Option Status) (txs : List Tx)
    (h0 : ∀ t, Tracker.new dflt init = .ok t → I t (Books.init dflt init)) (hg : ∀ x ∈ txs, Good x) :
    ListP P (Books.init dflt init) (deltaList dflt init txs).1 ∧
    ∀ f, (deltaList dflt init txs).2 = some f → Q f ∨ Tracker.new dflt init = .error f := by
  by_cases hne : txs = []
  · rw [hne, deltaList_nil]
    exact ⟨trivial, fun _ h => nomatch h⟩
  rcases deltaList_runs dflt init hne with ⟨f, hf, he⟩ | ⟨t, ds, e, ht, hr, he⟩
  · rw [he]
    exact ⟨trivial, fun _ h => .inr (Option.some.inj h ▸ hf)⟩
  · obtain ⟨h1, -, h2⟩ := hr.gen S (h0 t ht) hg (by simp) (by simp)
    rw [he]
    exact ⟨h1, fun f hf => .inl (h2 f (RunEnd.failure_eq_some.mp hf))⟩

/-- The tracker holds, for every affiliate, exactly the book `Spec` prescribes. -/
def TrackerRefines (t : Tracker) (bs : Books) : Prop :=
  ∀ a, bookOf ((t.m a).getD (defaultStatus a)) = bs a

theorem bookOf_getD (t : Tracker) (a : Aff) :
    bookOf ((t.m a).getD (defaultStatus a)) = { shares := t.bal a, acb := t.acbOf a } := by
  cases h : t.m a
  · rw [bal_of_none h, acbOf_of_none h]; rfl
  · rw [bal_of_some h, acbOf_of_some h]; rfl

theorem refines_bal {t : Tracker} {bs : Books} (h : TrackerRefines t bs) (a : Aff) :
    t.bal a = (bs a).shares :=
  congrArg Book.shares ((bookOf_getD t a).symm.trans (h a))

theorem setLatest_refines {t t' : Tracker} {bs : Books} {tx : Tx} {v : Status}
    (hr : TrackerRefines t bs) (h : t.setLatest tx.aff v = .ok t')
    (hb : bookOf v = stepBook (bs tx.aff) tx.act) : TrackerRefines t' (stepBooks bs tx) := by
  obtain ⟨_, _, rfl⟩ := setLatest_ok_iff.mp h
  intro a
  by_cases ha : a = tx.aff
  · subst ha
    rw [stepBooks_self, ← hb]
    simp
  · rw [stepBooks_of_ne bs ha]
    simpa [upd_of_ne _ _ ha] using hr a

/-- What the rule book says of one delta, given the books before it. -/
structure ConformsRow (bs : Books) (d : Delta) : Prop where
  pre : bookOf d.pre = bs d.tx.aff
  post : bookOf d.post = stepBook (bs d.tx.aff) d.tx.act
  gain : d.gain = (gain0 (bs d.tx.aff) d.tx.act).map (fun g => g - sflLoss d.sfl)

/-- Each delta's pre/post status and gain are what the average-cost rules give, starting
    from books `bs` and stepping through the deltas' own rows. -/
def Conforms : Books → List Delta → Prop
  | _, [] => True
  | bs, d :: ds =>
    bookOf d.pre = bs d.tx.aff ∧
    bookOf d.post = stepBook (bs d.tx.aff) d.tx.act ∧
    d.gain = (gain0 (bs d.tx.aff) d.tx.act).map (fun g => g - sflLoss d.sfl) ∧
    Conforms (stepBooks bs d.tx) ds

theorem Conforms_cons {bs : Books} {d : Delta} {ds : List Delta} :
    Conforms bs (d :: ds) ↔ ConformsRow bs d ∧ Conforms (stepBooks bs d.tx) ds :=
  ⟨fun ⟨h1, h2, h3, h⟩ => ⟨⟨h1, h2, h3⟩, h⟩, fun ⟨⟨h1, h2, h3⟩, h⟩ => ⟨h1, h2, h3, h⟩⟩

theorem Conforms_iff_listP {bs : Books} {ds : List Delta} :
    Conforms bs ds ↔ ListP ConformsRow bs ds := by
  induction ds generalizing bs with
  | nil => simp [Conforms, ListP]
  | cons d ds ih => rw [Conforms_cons, ListP, ih]

theorem Conforms_append {bs : Books} {l1 l2 : List Delta} :
    Conforms bs (l1 ++ l2) ↔ Conforms bs l1 ∧ Conforms (after bs (l1.map (·.tx))) l2 := by
  simp only [Conforms_iff_listP, ListP_append]

theorem Conforms_index {bs : Books} {ds : List Delta} (h : Conforms bs ds) (i : Nat) (hi : i < ds.length) :
    let bsi := after bs ((ds.take i).map (·.tx))
    bookOf ds[i].pre = bsi ds[i].tx.aff ∧
    bookOf ds[i].post = stepBook (bsi ds[i].tx.aff) ds[i].tx.act ∧
    ds[i].gain = (gain0 (bsi ds[i].tx.aff) ds[i].tx.act).map (fun g => g - sflLoss ds[i].sfl) :=
  let ⟨h1, h2, h3⟩ := ListP_index (Conforms_iff_listP.mp h) i hi
  ⟨h1, h2, h3⟩

theorem Conforms_take {bs : Books} {ds : List Delta} (h : Conforms bs ds) (k : Nat) :
    Conforms bs (ds.take k) :=
  (Conforms_append.mp ((List.take_append_drop k ds).symm ▸ h)).1

theorem stepRow_conforms {t t' : Tracker} {bs : Books} {tx : Tx} {past future : List Tx}
    {d : Delta} {inj : List Tx} (hv : SellPos tx) (hr : TrackerRefines t bs)
    (h : stepRow t tx past future = .ok (d, t', inj)) :
    ConformsRow bs d ∧ TrackerRefines t' (stepBooks bs tx) := by
  obtain ⟨_, o, ho, hs, rfl, _⟩ := stepRow_ok_iff.mp h
  obtain ⟨h1, h2⟩ := arm_book hv ho
  have hpb : bookOf (t.nextPre tx.aff) = bs tx.aff := by rw [← hr tx.aff, bookOf_getD, nextPre_eq]; rfl
  rw [hpb] at h1 h2
  exact ⟨⟨hpb, h1, h2⟩, setLatest_refines hr hs h1⟩

theorem conformsStepSpec : StepSpec TrackerRefines ConformsRow (fun _ => True) SellPos where
  ok := fun hr hv _ _ h =>
    let ⟨h1, h2⟩ := stepRow_conforms hv hr h
    ⟨h1, h2, fun x hx => (stepRow_inj h x hx).sellPos⟩
  err := fun _ _ _ _ _ => trivial

/-- The tracker built by `AffiliatePortfolioSecurityStatuses::new` holds the opening books. -/
theorem Tracker.new_refines {dflt : Aff} {init : Option Status} {t : Tracker}
    (h : Tracker.new dflt init = .ok t) : TrackerRefines t (Books.init dflt init) := by
  intro a
  cases init with
  | none =>
    cases h
    simp [Books.init, bookOf, defaultStatus, Book.zero]
  | some st =>
    obtain ⟨_, _, rfl⟩ := Tracker.new_some_ok_iff.mp h
    by_cases ha : a = dflt <;> simp [upd_apply, Books.init, ha, bookOf, defaultStatus, Book.zero]

end Acb
