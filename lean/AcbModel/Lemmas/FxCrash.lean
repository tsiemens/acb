/-
  The crash states of the write procedures (`crashStates`): those of the repaired procedure `writeProc`
  listed, and what a power loss leaves of a file that was on stable storage (C14).
-/
import AcbModel.Fx.CrashFs
import AcbModel.Lemmas.FxFill
namespace Acb.Fx

theorem mem_crashStates_next {s t : YearFiles} {op : Op} {ops : List Op}
    (h : t ∈ crashStates (applyOp s op) ops) : t ∈ crashStates s (op :: ops) :=
  List.mem_cons_of_mem _ (List.mem_append_right _ h)

theorem mem_crashStates_cut (s : YearFiles) (f : FileId) (bytes : List Char) (ops : List Op) (n : Nat) :
    applyOp s (.append f (bytes.take n)) ∈ crashStates s (.append f bytes :: ops) := by
  rw [List.take_eq_take_min]
  exact List.mem_cons_of_mem _ (List.mem_append_left _
    (List.mem_map.2 ⟨min n bytes.length, List.mem_range.2 (by omega), rfl⟩))

theorem foldl_mem_crashStates (s : YearFiles) (ops : List Op) : ops.foldl applyOp s ∈ crashStates s ops := by
  induction ops generalizing s with
  | nil => exact List.mem_singleton.2 rfl
  | cons op ops ih => exact mem_crashStates_next (ih _)

/-- The crash states of the repaired write procedure: up to the rename the cache file is untouched
    and no rename is pending; after it the new file is in place, complete and durable. -/
theorem crashStates_writeProc {live tmp : Option File} {content : List Char} {s : YearFiles}
    (hs : s ∈ crashStates { live := live, tmp := tmp } (writeProc content)) :
    s.live = live ∧ s.prevLive = none ∨
    s = { live := some ⟨content, content.length⟩, tmp := none, prevLive := some live } := by
  simp only [writeProc, crashStates, partials, applyOp, YearFiles.set, YearFiles.get,
    List.mem_cons, List.mem_append, List.mem_map, List.mem_range, List.not_mem_nil, or_false,
    List.nil_append] at hs
  rcases hs with rfl | (rfl | ⟨n, _, rfl⟩) | rfl | rfl | rfl
  iterate 5 exact .inl ⟨rfl, rfl⟩
  exact .inr rfl

/-- The old files are on stable storage (they were written by runs that completed). -/
def Settled (f : Option File) : Prop := ∀ x, f = some x → x.durable = x.data.length

theorem truncs_settled {f : Option File} (h : Settled f) : truncs f = [f.map (·.data)] := by
  cases f with
  | none => rfl
  | some x =>
    have := h x rfl
    simp [truncs, this]

theorem lossViews_live {s : YearFiles} (hl : Settled s.live) (hp : ∀ old, s.prevLive = some old → Settled old)
    {v : View} (hv : v ∈ lossViews s) :
    v.live = s.live.map (·.data) ∨ ∃ old, s.prevLive = some old ∧ v.live = old.map (·.data) := by
  unfold lossViews at hv
  cases ho : s.prevLive with
  | none =>
    simp only [ho, truncs_settled hl, List.flatMap_cons, List.flatMap_nil, List.append_nil, List.mem_map] at hv
    obtain ⟨t, _, rfl⟩ := hv
    exact .inl rfl
  | some old =>
    simp only [ho, truncs_settled hl, truncs_settled (hp old ho), List.flatMap_cons, List.flatMap_nil,
      List.append_nil, List.mem_append, List.mem_map] at hv
    rcases hv with ⟨t, _, rfl⟩ | ⟨t, _, rfl⟩
    · exact .inl rfl
    · exact .inr ⟨old, rfl, rfl⟩

theorem storeOfFiles_upd (dt : DateText) (files : Int → Option (List Char)) (y : Int)
    (v : Option (List Char)) :
    storeOfFiles dt (upd files y v) = upd (storeOfFiles dt files) y (v.map (parseFile dt)) := by
  funext y'
  by_cases h : y' = y
  · simp only [storeOfFiles, h, upd_same]
  · simp only [storeOfFiles, upd_ne _ _ h]

end Acb.Fx
