import AcbModel.Lemmas.Scaling
import AcbModel.Lemmas.ScanStep
namespace Acb

structure ScanScaled (f : Rat) (s s' : Scan) : Prop where
  adj : s'.adj = s.adj
  allEop : s'.allEop = s.allEop * f
  acquired : s'.acquired = s.acquired * f
  buyers : s'.buyers = s.buyers
  active : ∀ a, s'.active a = (s.active a).map (· * f)

theorem ScanScaled.active_getD {f : Rat} {t t' : Tracker} (ht : TrackerScaled f t t') {s s' : Scan}
    (h : ScanScaled f s s') (a : Aff) :
    (s'.active a).getD (t'.bal a) = (s.active a).getD (t.bal a) * f := by
  rw [h.active, ht.bal]
  cases s.active a <;> rfl

theorem upd_active_scaled {f : Rat} {m m' : Aff → Option Rat} (h : ∀ a, m' a = (m a).map (· * f)) (k : Aff)
    (v : Rat) (a : Aff) : upd m' k (some (v * f)) a = (upd m k (some v) a).map (· * f) := by
  unfold upd
  split
  · rfl
  · exact h a

theorem initScan_scaled {f : Rat} {t t' : Tracker} (ht : TrackerScaled f t t') (seller : Aff) (sold : Rat) :
    ScanScaled f (initScan t seller sold) (initScan t' seller (sold * f)) := by
  refine ⟨rfl, ?_, by simp [initScan], rfl, fun a => ?_⟩
  · simp only [initScan, ht.postAll, scale_sub]
  · simp only [initScan, ht.bal, scale_sub]
    exact upd_active_scaled (m := fun _ => none) (fun _ => rfl) _ _ a

theorem fwdStep_scaled {f : Rat} (hf : 0 < f) {t t' : Tracker} (ht : TrackerScaled f t t') {s s' : Scan}
    (h : ScanScaled f s s') {x x' : Tx} (hx : RowRel f x x') :
    ExceptRel (ScanScaled f) (fwdStep t s x) (fwdStep t' s' x') := by
  rcases hx with rfl | ⟨⟨sh, ps, hs⟩, rfl⟩
  · unfold fwdStep
    simp only [restateTx_act, restateTx_aff, h.adj, h.allEop, h.acquired, h.buyers, h.active_getD ht]
    cases x.act with
    | buy sh px comm rate crate =>
      simp only [restateAct, add_mul_scale]
      exact ⟨rfl, rfl, rfl, rfl, upd_active_scaled h.active _ _⟩
    | sell sh px comm rate crate spec =>
      simp only [restateAct, sub_mul_scale, Rat.mul_neg_iff_of_pos_right hf]
      exact exceptRel_ite (fun _ => rfl) fun _ =>
        exceptRel_ite (fun _ => rfl) fun _ => ⟨rfl, rfl, rfl, rfl, upd_active_scaled h.active _ _⟩
    | split post pre io => exact ⟨rfl, rfl, rfl, rfl, h.active⟩
    | roc ps rate => exact h
    | sfla sh ps => exact h
  · rw [fwdStep_sfla hs, fwdStep_sfla hs]
    exact h

theorem scanFwd_scaled {f : Rat} (hf : 0 < f) {t t' : Tracker} (ht : TrackerScaled f t t') (lastDay : Int)
    {future future' : List Tx} (hfut : Forall2 (RowRel f) future future') {s s' : Scan}
    (h : ScanScaled f s s') :
    ExceptRel (ScanScaled f) (scanFwd t lastDay s future) (scanFwd t' lastDay s' future') :=
  scanFwd_lockstep lastDay RowRel.settle (fun h hx => fwdStep_scaled hf ht h hx) hfut h

/-- relation between backward-scan states: everything in shares is scaled; on the affiliates of `As`
    the primed run's adjustments are `g` times larger; nothing is asked of the others (no row of
    theirs is scanned) -/
structure BwdRel (f g : Rat) (As : List Aff) (s s' : Scan) : Prop where
  adj : ∀ a, a ∈ As → s'.adj a = s.adj a * g
  acquired : s'.acquired = s.acquired * f
  buyers : s'.buyers = s.buyers
  active : ∀ a, s'.active a = (s.active a).map (· * f)

/-- The primed run sees the row restated for `k` and carries adjustments `g` times larger, where
    `k * g = f`: the restated row after the split (`k = f`, `g = 1`), the same row before it
    (`k = 1`, `g = f`). -/
theorem bwdStep_rel {f g k : Rat} (hk : k * g = f) {t t' : Tracker} (ht : TrackerScaled f t t')
    {As : List Aff} {s s' : Scan} (h : BwdRel f g As s s') {x : Tx} (hxA : x.aff ∈ As) :
    BwdRel f g As (bwdStep t s x) (bwdStep t' s' (restateTx k x)) := by
  unfold bwdStep
  simp only [restateTx_act, restateTx_aff, h.adj x.aff hxA]
  cases x.act with
  | buy sh px comm rate crate =>
    simp only [restateAct, h.acquired, h.buyers, h.active x.aff, Option.isNone_map, ht.bal]
    refine ⟨h.adj, by grind, rfl, fun a => ?_⟩
    split
    · exact upd_active_scaled h.active _ _ a
    · exact h.active a
  | split post pre io =>
    refine ⟨fun a ha => ?_, h.acquired, h.buyers, h.active⟩
    simp only [restateAct, upd]
    split
    · grind
    · exact h.adj a ha
  | _ => exact h

/-- what the rest of the computation reads off a finished backward scan -/
structure BwdFinal (f : Rat) (r r' : Scan) : Prop where
  acquired : r'.acquired = r.acquired * f
  buyers : r'.buyers = r.buyers
  active : ∀ a, r'.active a = (r.active a).map (· * f)

theorem BwdRel.final {f g : Rat} {As : List Aff} {s s' : Scan} (h : BwdRel f g As s s') : BwdFinal f s s' :=
  ⟨h.acquired, h.buyers, h.active⟩

/-- what the window scan of a later sale needs of the processed rows of the two runs -/
def PastScaled (f : Rat) (t t' : Tracker) (past past' : List Tx) : Prop :=
  ∀ (firstDay : Int) {s s' : Scan}, ScanScaled f s s' →
    BwdFinal f (scanBwd t firstDay { s with adj := fun _ => 1 } past)
      (scanBwd t' firstDay { s' with adj := fun _ => 1 } past')

end Acb
