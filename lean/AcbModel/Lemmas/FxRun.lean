/-
  The rate loader inside one run: the ways a load can go (`Loaded`), that each keeps the run invariant
  `RunInv`, and that under it every look-up returns what the specification says (C12, C13).
-/
import AcbModel.Lemmas.FxFill
import AcbModel.Lemmas.FxSpec
namespace Acb.Fx

theorem pubOf_eq {c : Cal} {remote : Int → Option (List DailyRate)} {y d : Int} {l : List DailyRate}
    (hd : c.yearOf d = y) (hl : remote y = some l) : pubOf c remote d = lookupLast l d := by
  simp [pubOf, hd, hl]

theorem pubOf_eq_some {c : Cal} {remote : Int → Option (List DailyRate)} {d : Int} {r : Rat}
    (h : pubOf c remote d = some r) : ∃ l, remote (c.yearOf d) = some l ∧ lookupLast l d = some r := by
  cases hl : remote (c.yearOf d) with
  | none => simp [pubOf, hl] at h
  | some l => exact ⟨l, rfl, pubOf_eq rfl hl ▸ h⟩

section
variable {e : Env} {y : Int} {l : List DailyRate} {x : DailyRate}

theorem RemoteWF.sorted (h : RemoteWF e) (hl : e.remote y = some l) : Sorted l := (h y l hl).1

theorem RemoteWF.year (h : RemoteWF e) (hl : e.remote y = some l) (hx : x ∈ l) : e.cal.yearOf x.date = y :=
  ((h y l hl).2 x hx).1

theorem RemoteWF.rate_ne_zero (h : RemoteWF e) (hl : e.remote y = some l) (hx : x ∈ l) : x.rate ≠ 0 :=
  ((h y l hl).2 x hx).2.1

theorem RemoteWF.date_le_today (h : RemoteWF e) (hl : e.remote y = some l) (hx : x ∈ l) : x.date ≤ e.today :=
  ((h y l hl).2 x hx).2.2

end

section
variable {a b : Env}

theorem Consistent.cal_eq (h : Consistent a b) : a.cal = b.cal := h.1

theorem Consistent.today_le (h : Consistent a b) : a.today ≤ b.today := h.2.1

theorem Consistent.past_eq (h : Consistent a b) {d : Int} (hd : d < a.today) :
    pubOf b.cal b.remote d = pubOf a.cal a.remote d :=
  h.2.2.1 d hd

theorem Consistent.stays_published (h : Consistent a b) {d : Int} {r : Rat}
    (hp : pubOf a.cal a.remote d = some r) : pubOf b.cal b.remote d = some r :=
  h.2.2.2.1 d r hp

theorem Consistent.stays_available (h : Consistent a b) {y : Int} (hy : (a.remote y).isSome = true) :
    (b.remote y).isSome = true :=
  h.2.2.2.2 y hy

end

section
variable {prev : Option Env} {r : Run} {rs : List Run}

theorem GoodHistory.ok (h : GoodHistory prev (r :: rs)) : r.env.cal.OK := h.1

theorem GoodHistory.wf (h : GoodHistory prev (r :: rs)) : RemoteWF r.env := h.2.1

theorem GoodHistory.consistent {p : Env} (h : GoodHistory (some p) (r :: rs)) : Consistent p r.env :=
  h.2.2.1

theorem GoodHistory.tail (h : GoodHistory prev (r :: rs)) : GoodHistory (some r.env) rs := h.2.2.2

end

/-- With no published day after today (`RemoteWF`), a placeholder stands for a day before today. -/
theorem fillUnknown_truthful (e : Env) (hc : e.cal.OK) (hwf : RemoteWF e) (y : Int)
    (l : List DailyRate) (hl : e.remote y = some l) : Truthful e y (fillUnknown e.cal e.today l y) := by
  intro d r hd hr
  rw [lookupLast_fillUnknown e.cal hc e.today y l (hwf.sorted hl) (fun x => hwf.year hl) d hd,
    Option.or_eq_some_iff] at hr
  rw [pubOf_eq hd hl]
  rcases hr with h | ⟨h, h0⟩
  · exact .inr ⟨hwf.rate_ne_zero hl (lookupLast_some_mem h), h⟩
  · by_cases hz : d < e.today ∨ ∃ x ∈ l, d < x.date
    · cases (if_pos hz).symm.trans h0
      exact .inl ⟨rfl, h, hz.elim id fun ⟨x, hx, h1⟩ => Int.lt_of_lt_of_le h1 (hwf.date_le_today hl hx)⟩
    · cases (if_neg hz).symm.trans h0

theorem fillUnknown_complete (e : Env) (hc : e.cal.OK) (hwf : RemoteWF e) (y : Int)
    (l : List DailyRate) (hl : e.remote y = some l) : Complete e y (fillUnknown e.cal e.today l y) := by
  intro d hd hr
  rw [lookupLast_fillUnknown e.cal hc e.today y l (hwf.sorted hl) (fun x => hwf.year hl) d hd,
    Option.or_eq_none_iff] at hr
  rw [pubOf_eq hd hl]
  exact ⟨hr.1, Int.not_lt.1 fun h => by simp [h] at hr⟩

theorem cacheOK_empty (e : Env) : CacheOK e fun _ => none := fun _ _ h => nomatch h

theorem cacheOK_upd {e : Env} {cache : Store} (h : CacheOK e cache) {y : Int} {rows : List DailyRate}
    (ht : Truthful e y rows) (ha : (e.remote y).isSome = true) : CacheOK e (upd cache y (some rows)) := by
  intro y' rows' h'
  by_cases hy : y' = y
  · subst hy
    cases (upd_same cache y' _).symm.trans h'
    exact ⟨ht, ha⟩
  · exact h y' rows' (upd_ne cache _ hy ▸ h')

/-- `fetch` either downloads — a download is forced, or the cache does not cover the target date —
    or leaves the state alone: it hands out the cached year (which covers the target date, unless the
    year was downloaded in this run) or reports that a year downloaded in this run cannot be read. -/
theorem fetch_cases (e : Env) (s : St) (d : Int) :
    fetch e s d = download e s (e.cal.yearOf d) ∧ (e.force = true ∨ ¬ Covered e s.cache d) ∨
    e.force = false ∧
      ((∃ rows, fetch e s d = (.ok rows, s) ∧ s.cache (e.cal.yearOf d) = some rows ∧
          (s.fresh (e.cal.yearOf d) = true ∨ (lookupLast rows d).isSome = true)) ∨
       ∃ er, fetch e s d = (.error er, s) ∧ s.fresh (e.cal.yearOf d) = true) := by
  -- one disjunct per leaf of `fetch`: the three `download` leaves go left with the test that led
  -- there, the two `.ok rows` leaves and the two error leaves go right
  simp only [fetch, Covered]
  grind

/-- The four ways `ensureLoaded e s d` can go, `y` being the year of `d`: the year in `year_rates` is
    kept; the cached year is taken; nothing can be had; the year is downloaded, stored and taken. -/
inductive Loaded (e : Env) (s : St) (y d : Int) : Except FxErr (List DailyRate) × St → Prop
  | kept {rows} : s.loaded y = some rows → needLoad s y d = false → Loaded e s y d (.ok rows, s)
  | cached {rows} : needLoad s y d = true → e.force = false → s.cache y = some rows →
      (s.fresh y = true ∨ (lookupLast rows d).isSome = true) →
      Loaded e s y d (.ok rows, { s with loaded := upd s.loaded y (some rows) })
  | failed {er} : needLoad s y d = true → (s.fresh y = true ∨ e.remote y = none) →
      Loaded e s y d (.error er, s)
  | downloaded {l} : needLoad s y d = true → (e.force = true ∨ ¬ Covered e s.cache d) →
      e.remote y = some l →
      Loaded e s y d (.ok (fillUnknown e.cal e.today l y),
        { loaded := upd s.loaded y (some (fillUnknown e.cal e.today l y))
          fresh := upd s.fresh y true
          downloads := s.downloads ++ [y]
          cache := if e.wrErr y then s.cache else upd s.cache y (some (fillUnknown e.cal e.today l y)) })

theorem ensureLoaded_cases (e : Env) (s : St) (d : Int) :
    Loaded e s (e.cal.yearOf d) d (ensureLoaded e s d) := by
  unfold ensureLoaded
  by_cases hn : needLoad s (e.cal.yearOf d) d = true
  · simp only [hn, if_true]
    rcases fetch_cases e s d with ⟨h, hwhy⟩ | ⟨hf, ⟨rows, h, hcr, hcov⟩ | ⟨er, h, hfr⟩⟩ <;> rw [h]
    · unfold download
      cases hl : e.remote (e.cal.yearOf d) with
      | none => exact .failed hn (.inr hl)
      | some l => exact .downloaded hn hwhy hl
    · exact .cached hn hf hcr hcov
    · exact .failed hn (.inl hfr)
  · simp only [hn, Bool.false_eq_true, if_false]
    cases hl : s.loaded (e.cal.yearOf d) with
    | none => simp [needLoad, hl] at hn
    | some rows => exact .kept hl (by simpa using hn)

theorem getExact_snd (e : Env) (s : St) (d : Int) : (getExact e s d).2 = (ensureLoaded e s d).2 := by
  unfold getExact
  split
  · simp only [*]
  · split <;> split <;> simp only [*]

theorem getExact_effect (e : Env) (s : St) (d : Int) :
    (getExact e s d).2.downloads = s.downloads ∧ (getExact e s d).2.cache = s.cache ∨
    (e.force = true ∨ ¬ Covered e s.cache d) ∧ ∃ l, e.remote (e.cal.yearOf d) = some l ∧
      (getExact e s d).2.downloads = s.downloads ++ [e.cal.yearOf d] ∧
      (getExact e s d).2.cache = if e.wrErr (e.cal.yearOf d) then s.cache else
        upd s.cache (e.cal.yearOf d) (some (fillUnknown e.cal e.today l (e.cal.yearOf d))) := by
  rw [getExact_snd]
  have h := ensureLoaded_cases e s d
  generalize ensureLoaded e s d = p at h ⊢
  cases h with
  | downloaded _ hwhy hl => exact .inr ⟨hwhy, _, hl, rfl, rfl⟩
  | _ => exact .inl ⟨rfl, rfl⟩

theorem needLoad_not_fresh {e : Env} {s : St} (hinv : RunInv e s) {y d : Int}
    (hn : needLoad s y d = true) : s.fresh y = false := by
  cases hf : s.fresh y with
  | false => rfl
  | true =>
    obtain ⟨rows, h1, _⟩ := hinv.fresh y hf
    simp [needLoad, h1, hf] at hn

/-- Only year `y` changes, and what is taken for it is the cached year or a download of this run. -/
theorem Loaded.inv {e : Env} (hc : e.cal.OK) (hwf : RemoteWF e) {s : St} (hinv : RunInv e s) {y d : Int}
    {p : Except FxErr (List DailyRate) × St} (h : Loaded e s y d p) : RunInv e p.2 := by
  cases h with
  | kept | failed => exact hinv
  | @cached rows hn hf hcr =>
    have hfr := needLoad_not_fresh hinv hn
    refine ⟨fun y' hy' => ?_, fun y' r hl hfr' => ?_, hinv.cache, hinv.dl, hinv.nodup⟩
    · have hne : y' ≠ y := fun h => by simp [h, hfr] at hy'
      simpa only [upd_ne _ _ hne] using hinv.fresh y' hy'
    · by_cases hne : y' = y
      · subst hne
        cases (upd_same s.loaded y' _).symm.trans hl
        exact ⟨hcr, hf⟩
      · exact hinv.stale y' r (upd_ne s.loaded _ hne ▸ hl) hfr'
  | @downloaded l hn _ hl =>
    have hfr := needLoad_not_fresh hinv hn
    have ht := fillUnknown_truthful e hc hwf y l hl
    have hcm := fillUnknown_complete e hc hwf y l hl
    have ha : (e.remote y).isSome = true := hl ▸ rfl
    refine ⟨fun y' hy' => ?_, fun y' r hld hfr' => ?_, ?_, fun y' hy' => ?_, ?_⟩
    · by_cases hne : y' = y
      · subst hne
        exact ⟨_, upd_same .., ht, hcm, ha⟩
      · simp only [upd_ne _ _ hne] at hy' ⊢
        exact hinv.fresh y' hy'
    · by_cases hne : y' = y
      · subst hne
        simp at hfr'
      · simp only [upd_ne _ _ hne] at hld hfr'
        obtain ⟨h1, h2⟩ := hinv.stale y' r hld hfr'
        refine ⟨?_, h2⟩
        split
        · exact h1
        · simp only [upd_ne _ _ hne, h1]
    · refine hinv.cache.imp_right fun h => ?_
      split
      · exact h
      · exact cacheOK_upd h ht ha
    · by_cases hne : y' = y
      · subst hne
        exact upd_same ..
      · simp only [List.mem_append, List.mem_singleton, hne, or_false] at hy'
        simp only [upd_ne _ _ hne, hinv.dl y' hy']
    · refine List.nodup_append.mpr ⟨hinv.nodup, by simp, fun a ha b hb hab => ?_⟩
      rw [List.mem_singleton.1 hb] at hab
      have := hinv.dl a ha
      rw [hab, hfr] at this
      cases this

theorem Loaded.loaded_ok {e : Env} {s : St} {y d : Int} {rows : List DailyRate} {s' : St}
    (h : Loaded e s y d (.ok rows, s')) :
    s'.loaded y = some rows ∧ (s'.fresh y = true ∨ (lookupLast rows d).isSome = true) := by
  cases h with
  | kept hl hn => exact ⟨hl, by simpa [needLoad, hl, Decidable.or_iff_not_imp_left] using hn⟩
  | cached hn hf hcr hcov => exact ⟨upd_same .., hcov⟩
  | downloaded hn _ hl => exact ⟨upd_same .., .inl (upd_same ..)⟩

theorem RunInv.rows_spec {e : Env} {s : St} (hinv : RunInv e s) {d : Int} {rows : List DailyRate}
    (hl : s.loaded (e.cal.yearOf d) = some rows)
    (hcov : s.fresh (e.cal.yearOf d) = true ∨ (lookupLast rows d).isSome = true) :
    Truthful e (e.cal.yearOf d) rows ∧
    (lookupLast rows d = none → pubOf e.cal e.remote d = none ∧ e.today ≤ d) ∧
    (e.remote (e.cal.yearOf d)).isSome = true := by
  cases hf : s.fresh (e.cal.yearOf d) with
  | true =>
    obtain ⟨rows', h1, h2, h3, h4⟩ := hinv.fresh _ hf
    cases hl.symm.trans h1
    exact ⟨h2, h3 d rfl, h4⟩
  | false =>
    obtain ⟨h1, h2⟩ := hinv.stale _ _ hl hf
    obtain ⟨h3, h4⟩ := (hinv.cache.resolve_left (by simp [h2])) _ _ h1
    exact ⟨h3, fun hnone => by simp [hf, hnone] at hcov, h4⟩

theorem Loaded.error_spec {e : Env} {s : St} (hinv : RunInv e s) {y d : Int} {er : FxErr} {s' : St}
    (h : Loaded e s y d (.error er, s')) : e.remote y = none := by
  cases h with
  | failed hn h => exact h.resolve_left (by simp [needLoad_not_fresh hinv hn])

theorem getExact_spec (e : Env) (hc : e.cal.OK) (hwf : RemoteWF e) (s : St) (hinv : RunInv e s)
    (d : Int) :
    RunInv e (getExact e s d).2 ∧ forget (getExact e s d).1 = specExact e d := by
  have h := ensureLoaded_cases e s d
  have hinv' := h.inv hc hwf hinv
  refine ⟨getExact_snd e s d ▸ hinv', ?_⟩
  unfold getExact
  generalize ensureLoaded e s d = p at h hinv' ⊢
  rcases p with ⟨er | rows, s'⟩
  · simp [forget, specExact, availOf, h.error_spec hinv]
  obtain ⟨hld, hcov⟩ := h.loaded_ok
  obtain ⟨ht, hn, ha⟩ := hinv'.rows_spec hld hcov
  cases hl : lookupLast rows d with
  | none =>
    obtain ⟨hp, htd⟩ := hn hl
    simp [forget, specExact, availOf, ha, hp, hl, htd]
  | some r =>
    rcases ht d r rfl hl with ⟨hr, hp, hlt⟩ | ⟨hr, hp⟩
    · simp [forget, specExact, availOf, ha, hp, hl, hr, Int.not_le.2 hlt]
    · simp [forget, specExact, availOf, ha, hp, hl, hr]

/-- The two constants of the look-back are read from the source (`Gen`); these are the only places
    where their values enter the proofs. -/
theorem step_is_one : Gen.fxLookbackStepDays = 1 := rfl

theorem lookback_is_7 : Gen.fxLookbackDays = 7 := rfl

theorem lookBack_succ (e : Env) (n : Nat) (s : St) (d : Int) :
    lookBack e (n + 1) s d =
      match getExact e s (d - 1) with
      | (.error er, s') => (.error er, s')
      | (.ok (some r), s') => (.ok r, s')
      | (.ok none, s') => lookBack e n s' (d - 1) := by
  rw [lookBack, step_is_one]
  rfl

theorem lookBack_ind (e : Env) (I : St → Prop) (n : Nat) (d : Int)
    (step : ∀ s d', d - n ≤ d' → d' < d → I s → I (getExact e s d').2) (s : St) (h : I s) :
    I (lookBack e n s d).2 := by
  induction n generalizing s d with
  | zero => exact h
  | succ n ih =>
    have h1 := step s (d - 1) (by omega) (by omega) h
    rw [lookBack_succ]
    generalize getExact e s (d - 1) = p at h1 ⊢
    rcases p with ⟨_ | _ | r, s'⟩
    · exact h1
    · exact ih (d - 1) (fun s d' ha hb => step s d' (by omega) (by omega)) s' h1
    · exact h1

theorem lookBack_spec (e : Env) (hc : e.cal.OK) (hwf : RemoteWF e) (n : Nat) (s : St)
    (hinv : RunInv e s) (d : Int) :
    RunInv e (lookBack e n s d).2 ∧ forget (lookBack e n s d).1 = specBack e n d := by
  induction n generalizing s d with
  | zero => exact ⟨hinv, rfl⟩
  | succ n ih =>
    obtain ⟨h1, h2⟩ := getExact_spec e hc hwf s hinv (d - 1)
    simp only [lookBack_succ, specBack, ← h2]
    generalize getExact e s (d - 1) = p at h1 ⊢
    rcases p with ⟨_ | _ | r, s'⟩
    · exact ⟨h1, rfl⟩
    · exact ih s' h1 (d - 1)
    · exact ⟨h1, rfl⟩

theorem getEffective_eq_lookBack (e : Env) (s : St) (d : Int) :
    getEffective e s d = lookBack e 8 s (d + 1) := by
  rw [getEffective, lookBack_succ, lookback_is_7, Int.add_sub_cancel]
  rfl

theorem getEffective_spec (e : Env) (hc : e.cal.OK) (hwf : RemoteWF e) (s : St)
    (hinv : RunInv e s) (d : Int) :
    RunInv e (getEffective e s d).2 ∧ forget (getEffective e s d).1 = specRate e d := by
  rw [getEffective_eq_lookBack, specRate_eq_specBack]
  exact lookBack_spec e hc hwf 8 s hinv (d + 1)

theorem getEffective_relevant (e : Env) (hc : e.cal.OK) (hwf : RemoteWF e) (s : St) (hinv : RunInv e s)
    {d : Int} {r : DailyRate} (h : (getEffective e s d).1 = .ok r) : IsRelevantRate e d r :=
  specRate_sound ((getEffective_spec e hc hwf s hinv d).2.symm.trans (congrArg forget h))

theorem getEffective_ind (e : Env) (I : St → Prop) (d : Int)
    (step : ∀ s (k : Nat), k ≤ 7 → I s → I (getExact e s (d - k)).2) (s : St) (h : I s) :
    I (getEffective e s d).2 := by
  rw [getEffective_eq_lookBack]
  exact lookBack_ind e I 8 (d + 1)
    (fun s d' ha hb hs => forall_window (fun d' => I (getExact e s d').2) (step s · · hs) (by omega) (by omega))
    s h

theorem runLookups_ind (e : Env) (I : St → Prop) (step : ∀ s d, I s → I (getExact e s d).2) (s : St)
    (ds : List Int) (h : I s) : I (runLookups e s ds).2 := by
  induction ds generalizing s with
  | nil => exact h
  | cons d ds ih => exact ih _ (getEffective_ind e I d (fun s k _ => step s _) s h)

theorem inv_init (e : Env) (cache : Store) (h : e.force = true ∨ CacheOK e cache) :
    RunInv e (St.init cache) :=
  ⟨fun y hy => by simp [St.init] at hy, fun y r hl => by simp [St.init] at hl, h,
   fun y hy => by simp [St.init] at hy, by simp [St.init]⟩

theorem runLookups_spec (e : Env) (hc : e.cal.OK) (hwf : RemoteWF e) (s : St) (hinv : RunInv e s)
    (ds : List Int) :
    RunInv e (runLookups e s ds).2 ∧ (runLookups e s ds).1.map forget = ds.map (specRate e) := by
  induction ds generalizing s with
  | nil => exact ⟨hinv, rfl⟩
  | cons d ds ih =>
    obtain ⟨h1, h2⟩ := getEffective_spec e hc hwf s hinv d
    obtain ⟨i1, i2⟩ := ih (getEffective e s d).2 h1
    simp only [runLookups, List.map_cons, h2, i2]
    exact ⟨i1, trivial⟩

end Acb.Fx

namespace Acb
open Fx

/-- The same look-up against the same data with no cache: a new loader over an empty cache. -/
def uncached (e : Env) (d : Int) : Except Unit DailyRate :=
  forget (getEffective e (St.init fun _ => none) d).1

theorem uncached_eq_spec (e : Env) (hc : e.cal.OK) (hwf : RemoteWF e) (d : Int) :
    uncached e d = specRate e d :=
  (getEffective_spec e hc hwf _ (inv_init e _ (.inr (cacheOK_empty e))) d).2

end Acb
