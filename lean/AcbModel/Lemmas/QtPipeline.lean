/-
  The option pipeline of `run_with_args` (C18): what the options do to the converted rows, and the
  `USD.FX` total of the output.
-/
import AcbModel.Lemmas.QtOrder
import AcbModel.Lemmas.QtFx

namespace Acb.Qt

/-- filters, then the rate option; before the optional sort -/
def selected (o : Opts) (txs : List BTx) : List BTx := (txs.filter (keeps o)).map (rated o)

/-- F-18b: a rate the row carries is never replaced -/
theorem rated_cases (o : Opts) (t : BTx) :
    rated o t = t ∨
    ∃ r, o.usdRate = some r ∧ t.currency = "USD" ∧ t.rate = none ∧ rated o t = { t with rate := some r } := by
  unfold rated
  cases o.usdRate with
  | none => exact Or.inl rfl
  | some r =>
    dsimp only [applyRate]
    by_cases h : t.currency = "USD" ∧ t.rate = none
    · rw [if_pos h]
      exact Or.inr ⟨r, rfl, h.1, h.2, rfl⟩
    · rw [if_neg h]
      exact Or.inl rfl

theorem rated_eq (o : Opts) (t : BTx) : rated o t = { t with rate := (rated o t).rate } := by
  rcases rated_cases o t with h | ⟨_, _, _, _, h⟩ <;> rw [h]

theorem rated_security (o : Opts) (t : BTx) : (rated o t).security = t.security := by
  rw [rated_eq]

theorem signedShares_rated (o : Opts) (t : BTx) : signedShares (rated o t) = signedShares t := by
  rw [rated_eq]
  rfl

theorem rated_keeps_rate (o : Opts) {t : BTx} {x : Rat} (h : t.rate = some x) : (rated o t).rate = some x := by
  rcases rated_cases o t with he | ⟨_, _, _, hn, _⟩
  · rw [he, h]
  · rw [hn] at h
    cases h

theorem postFilter_eq (o : Opts) (l : List BTx) :
    postFilter o l =
      if o.noSort then selected { o with account := none } l
      else sortTxs (selected { o with account := none } l) := by
  have ft : ∀ l : List BTx, l.filter (fun _ => true) = l := fun l => List.filter_eq_self.mpr fun _ _ => rfl
  unfold postFilter selected keeps rated
  -- an absent option is `filter (fun _ => true)` or `map id`; two filters are one filter of the conjunction
  cases o.security <;> cases o.noFx <;> cases o.usdRate <;> simp [List.filter_filter, Bool.and_comm, ft]

theorem selected_account (o : Opts) (f : String → Bool) (hf : o.account = some f) (l : List BTx) :
    selected { o with account := none } (l.filter fun t => f t.account.str) = selected o l := by
  unfold selected keeps rated
  simp [hf, List.filter_filter, Bool.and_comm, Bool.and_left_comm]

theorem pipeline_out {o : Opts} {c : Conv} {txs : List BTx} {errs : List (Nat × ErrKind)}
    (h : pipeline o c = .out txs errs) :
    errs = c.errors ∧ txs = if o.noSort then selected o c.txs else sortTxs (selected o c.txs) := by
  unfold pipeline at h
  split at h
  · rename_i f hf
    cases h
    exact ⟨rfl, by rw [postFilter_eq, selected_account o f hf]⟩
  · rename_i hf
    split at h
    · cases h
    · cases h
      have : ({ o with account := none } : Opts) = o := by
        cases o
        simp_all
      exact ⟨rfl, by rw [postFilter_eq, this]⟩

theorem pipeline_perm {o : Opts} {c : Conv} {txs : List BTx} {errs : List (Nat × ErrKind)}
    (h : pipeline o c = .out txs errs) : txs.Perm (selected o c.txs) := by
  rw [(pipeline_out h).2]
  split
  · exact .refl _
  · exact sortTxs_perm _

theorem pipeline_mem {o : Opts} {c : Conv} {txs : List BTx} {errs : List (Nat × ErrKind)}
    (h : pipeline o c = .out txs errs) {t : BTx} (ht : t ∈ txs) :
    ∃ t0 ∈ c.txs, keeps o t0 = true ∧ t = rated o t0 := by
  obtain ⟨t0, ht0, rfl⟩ := List.mem_map.mp ((pipeline_perm h).mem_iff.mp ht)
  obtain ⟨hmem, hkeep⟩ := List.mem_filter.mp ht0
  exact ⟨t0, hmem, hkeep, rfl⟩

theorem pipeline_sorted {o : Opts} {c : Conv} {txs : List BTx} {errs : List (Nat × ErrKind)}
    (h : pipeline o c = .out txs errs) (hs : o.noSort = false) :
    txs.Pairwise (fun a b => leBTx a b = true) := by
  rw [(pipeline_out h).2, hs]
  exact sortTxs_sorted _

theorem usdFxTotal_eq_sumOver (l : List BTx) :
    usdFxTotal l = Costs.sumOver l fun t => if t.security = "USD.FX" then signedShares t else 0 := by
  induction l with
  | nil => rfl
  | cons t ts ih => rw [usdFxTotal, ih, Costs.sumOver_cons]

theorem usdFxTotal_perm {a b : List BTx} (h : a.Perm b) : usdFxTotal a = usdFxTotal b := by
  rw [usdFxTotal_eq_sumOver, usdFxTotal_eq_sumOver, Costs.sumOver_perm h]

theorem usdFxTotal_selected (o : Opts) (hsec : o.security = none) (hfx : o.noFx = false) (l : List BTx) :
    usdFxTotal (selected o l) = fxSum (acctPred o) (l.filter fun t => t.security = "USD.FX") := by
  have hk : ∀ t, keeps o t = acctPred o t.account := fun t => by
    unfold keeps acctPred
    simp [hsec, hfx]
  rw [usdFxTotal_eq_sumOver, fxSum_eq_sumOver, selected, Costs.sumOver_map, Costs.sumOver_filter,
    Costs.sumOver_filter]
  -- on both sides a row counts iff it is a `USD.FX` row of a selected account
  refine Costs.sumOver_congr fun t _ => ?_
  rw [rated_security, signedShares_rated, hk]
  by_cases hp : acctPred o t.account = true <;> by_cases ht : t.security = "USD.FX" <;> simp [hp, ht]

end Acb.Qt
