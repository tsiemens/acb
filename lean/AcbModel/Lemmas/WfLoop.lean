/-
  The tracker invariant along the whole loop: consequences for every delta (C04) and for the
  failures that can come out (C05).
-/
import AcbModel.Lemmas.Wf
import AcbModel.Lemmas.ScanInv
namespace Acb
open Spec

/-- What the ledger guarantees about every delta it emits (C04's invariants). -/
structure DeltaOk (bs : Books) (d : Delta) : Prop where
  valid : d.tx.Valid
  pre : StatusOk d.tx.aff d.pre
  post : StatusOk d.tx.aff d.post
  allNonneg : 0 ≤ d.post.all
  total : ∃ U : List Aff, U.Nodup ∧ (∀ a, a ∉ U → (stepBooks bs d.tx a).shares = 0) ∧
    d.post.all = sumOver U (fun a => (stepBooks bs d.tx a).shares)

def WfInv (t : Tracker) (bs : Books) : Prop := TrackerRefines t bs ∧ TrackerWF t

/-- Under the tracker invariant, an arm can only fail with a user-facing `Result::Err`. -/
theorem arm_err {t : Tracker} {U : List Aff} (hw : TrackerWFOn U t) {tx : Tx} {pre : Status}
    {past future : List Tx} {f : Failure} (hv : tx.Valid) (hp : StatusOk tx.aff pre)
    (hvp : ∀ x ∈ past, x.Valid) (hvf : ∀ x ∈ future, x.Valid)
    (h : arm t tx pre past future = .error f) : UserErr f := by
  unfold Tx.Valid at hv
  cases hact : tx.act with
  | buy sh px comm rate crate => rw [arm_buy hact] at h; cases h
  | sell sh px comm rate crate spec =>
    rw [arm_sell hact] at h
    by_cases hA : pre.shares - sh < 0
    · rw [armSell_oversell hA] at h; cases h; exact .of_err rfl
    by_cases hB : pre.all - sh < 0
    · rw [armSell_oversellAll hA hB] at h; cases h; exact .of_err rfl
    cases hps : perShareAcb pre with
    | none =>
      rw [armSell_registered hA hB hps] at h
      split at h <;> cases h
      exact .of_err rfl
    | some aps =>
      by_cases hg : px * sh * rate - comm * commRate rate crate - aps * sh < 0
      · rw [armSell_loss hA hB hps hg] at h
        exact deltaSflInfo_err (fun a => hw.bal_nonneg a) (hact ▸ hv).1 hvp hvf (Except.map_eq_error_iff.mp h)
      · rw [armSell_gain hA hB hps hg] at h
        split at h <;> cases h
        exact .of_err rfl
  | roc ps rate =>
    rw [arm_roc hact] at h
    rcases (armRoc_error_iff hp.reg).mp h with ⟨-, rfl⟩ | ⟨rfl, -⟩ <;> exact .of_err rfl
  | sfla sh ps =>
    rw [arm_sfla hact] at h
    rw [((armSfla_error_iff hp.reg).mp h).2]
    exact .of_err rfl
  | split post pre' io =>
    rw [arm_split hact] at h
    rcases armSplit_error_iff.mp h with ⟨-, rfl⟩ | ⟨-, -, rfl⟩ <;> exact .of_err rfl

theorem TrackerWFOn.arm_ok {U : List Aff} {t : Tracker} (hw : TrackerWFOn U t) {tx : Tx} (hv : tx.Valid)
    {past future : List Tx} {o : ArmOut} (ho : arm t tx (t.nextPre tx.aff) past future = .ok o) :
    StatusOk tx.aff o.post ∧ 0 ≤ o.post.all :=
  arm_wf hv (hw.nextPre_ok tx.aff) (by rw [nextPre_all, nextPre_shares]; exact hw.bal_le_all _) ho

theorem arm_post_all {t : Tracker} {tx : Tx} {past future : List Tx} {o : ArmOut}
    (ho : arm t tx (t.nextPre tx.aff) past future = .ok o) :
    o.post.all = o.post.shares + t.latestAll - t.bal tx.aff := by
  rw [arm_all ho, nextPre_all, nextPre_shares]

/-- An arm's post-status goes into the tracker: the assertions of `set_latest_post_status` cannot fire. -/
theorem TrackerWFOn.setLatest_arm {U : List Aff} {t : Tracker} (hw : TrackerWFOn U t) {tx : Tx} (hv : tx.Valid)
    {past future : List Tx} {o : ArmOut} (ho : arm t tx (t.nextPre tx.aff) past future = .ok o) :
    t.setLatest tx.aff o.post = .ok (t.put tx.aff o.post) :=
  setLatest_ok_iff.mpr ⟨(hw.arm_ok hv ho).1.reg.symm, arm_post_all ho, rfl⟩

theorem stepRow_wfOn {U : List Aff} {t t' : Tracker} (hw : TrackerWFOn U t) {tx : Tx} (hv : tx.Valid)
    (ha : tx.aff ∈ U) {past future : List Tx} {d : Delta} {inj : List Tx}
    (h : stepRow t tx past future = .ok (d, t', inj)) : TrackerWFOn U t' := by
  cases stepRow_put h
  obtain ⟨_, o, ho, -, rfl, -⟩ := stepRow_ok_iff.mp h
  exact hw.put_of_mem ha (hw.arm_ok hv ho).1 (arm_post_all ho)

theorem stepRow_wf {t t' : Tracker} {bs : Books} {tx : Tx} {past future : List Tx} {d : Delta}
    {inj : List Tx} (hi : WfInv t bs) (hv : tx.Valid)
    (h : stepRow t tx past future = .ok (d, t', inj)) :
    DeltaOk bs d ∧ WfInv t' (stepBooks bs tx) ∧ ∀ x ∈ inj, x.Valid := by
  obtain ⟨hr, U, hw⟩ := hi
  have hr' : TrackerRefines t' (stepBooks bs tx) := (stepRow_conforms (SellPos_of_valid hv) hr h).2
  cases stepRow_put h
  obtain ⟨_, o, ho, -, rfl, rfl⟩ := stepRow_ok_iff.mp h
  obtain ⟨hok, hnn⟩ := hw.arm_ok hv ho
  have hw' := hw.put hok (arm_post_all ho)
  refine ⟨⟨hv, hw.nextPre_ok tx.aff, hok, hnn, _, hw'.nodup, fun a ha => ?_, ?_⟩, ⟨hr', _, hw'⟩, fun x hx => ?_⟩
  · rw [← refines_bal hr' a]
    exact hw'.bal_zero ha
  · rw [← put_latestAll t tx.aff o.post, hw'.total]
    exact sumOver_congr fun a _ => refines_bal hr' a
  · obtain ⟨a, amt, _, hamt, rfl⟩ := stepRow_inj_row h hx
    exact ⟨by decide, hamt⟩

/-- Under the tracker invariant only the arm can reject a row: the sanity check passes, and the
    tracker takes the post-status of every arm that succeeds (its assertions cannot fire). -/
theorem stepRow_error_iff_arm {t : Tracker} {U : List Aff} (hw : TrackerWFOn U t) {tx : Tx}
    (hv : tx.Valid) {past future : List Tx} {f : Failure} :
    stepRow t tx past future = .error f ↔ arm t tx (t.nextPre tx.aff) past future = .error f := by
  rw [stepRow_error_iff, sanityCheck_ok hw]
  constructor
  · rintro (h | ⟨_, h | ⟨o, ho, h⟩⟩)
    · cases h
    · exact h
    · rw [hw.setLatest_arm hv ho] at h
      cases h
  · exact fun h => .inr ⟨rfl, .inl h⟩

theorem stepRow_wf_err {t : Tracker} {bs : Books} {tx : Tx} {past future : List Tx} {f : Failure}
    (hi : WfInv t bs) (hv : tx.Valid) (hvp : ∀ x ∈ past, x.Valid) (hvf : ∀ x ∈ future, x.Valid)
    (h : stepRow t tx past future = .error f) : UserErr f := by
  obtain ⟨-, U, hw⟩ := hi
  exact arm_err hw hv (hw.nextPre_ok tx.aff) hvp hvf ((stepRow_error_iff_arm hw hv).mp h)

theorem wfStepSpec : StepSpec WfInv DeltaOk UserErr Tx.Valid where
  ok := fun hi hv _ _ h => stepRow_wf hi hv h
  err := stepRow_wf_err

theorem wfOnStepSpec (As : List Aff) :
    StepSpec (fun t bs => TrackerWFOn As t ∧ TrackerRefines t bs) (fun _ _ => True) (fun _ => True)
      (fun x => x.Valid ∧ x.aff ∈ As) where
  ok := fun ⟨hw, hr⟩ hx hpast hfut hs => by
    obtain ⟨-, ⟨hr', -⟩, hinj⟩ := stepRow_wf ⟨hr, _, hw⟩ hx.1 hs
    exact ⟨trivial, ⟨stepRow_wfOn hw hx.1 hx.2 hs, hr'⟩, fun y hy => ⟨hinj y hy,
      stepRow_inj_aff (· ∈ As) (fun z hz => (hpast z hz).2) (fun z hz => (hfut z hz).2) hs y hy⟩⟩
  err := fun _ _ _ _ _ => trivial

theorem Runs.wfOn {As : List Aff} {r : List Tx} (hr : ∀ x ∈ r, x.Valid ∧ x.aff ∈ As)
    {t t2 : Tracker} {past past2 p : List Tx} {ds : List Delta}
    (h : Runs r t past p ds (.inl (t2, past2))) (hw : TrackerWFOn As t) (hp : ∀ x ∈ p, x.Valid ∧ x.aff ∈ As)
    (hpast : ∀ y ∈ past, y.Valid ∧ y.aff ∈ As) :
    TrackerWFOn As t2 ∧ ∀ y ∈ past2, y.Valid ∧ y.aff ∈ As :=
  -- the books are the tracker's own
  (h.gen_end (wfOnStepSpec As) ⟨hw, fun _ => rfl⟩ hp hr hpast).imp_left (·.1)

/-- What `parse_initial_status` guarantees about an opening position: it belongs to the default
    (non-registered) affiliate, its two share figures coincide and nothing is negative. -/
structure InitOk (dflt : Aff) (init : Option Status) : Prop where
  dflt : dflt.registered = false
  st : ∀ s, init = some s → s.shares = s.all ∧ 0 ≤ s.shares ∧ ∃ c, s.acb = some c ∧ 0 ≤ c

theorem Tracker.new_wfOn {dflt : Aff} {init : Option Status} (hi : InitOk dflt init) {As : List Aff}
    (hn : As.Nodup) (hd : init ≠ none → dflt ∈ As) :
    ∃ t, Tracker.new dflt init = .ok t ∧ TrackerWFOn As t := by
  cases init with
  | none => exact ⟨_, rfl, .empty hn dflt⟩
  | some st =>
    obtain ⟨h1, h2, c, hc, hc0⟩ := hi.st st rfl
    have hok : StatusOk dflt st := ⟨by simp [hc, hi.dflt], h2, by simp [hc]; exact hc0⟩
    exact ⟨_, Tracker.new_some_ok_iff.mpr ⟨h1, hok.reg.symm, rfl⟩, (TrackerWFOn.empty hn dflt).put_of_mem (hd nofun) hok
      (by rw [Tracker.empty_latestAll, Tracker.empty_bal, Rat.add_zero, rat_sub_zero, h1])⟩

theorem Tracker.new_wf {dflt : Aff} {init : Option Status} (hi : InitOk dflt init) :
    ∃ t, Tracker.new dflt init = .ok t ∧ WfInv t (Books.init dflt init) :=
  let ⟨t, ht, hw⟩ := Tracker.new_wfOn (As := [dflt]) hi (by simp) fun _ => by simp
  ⟨t, ht, Tracker.new_refines ht, _, hw⟩

theorem deltaList_wf (dflt : Aff) (init : Option Status) (txs : List Tx)
    (hv : ∀ tx ∈ txs, tx.Valid) (hi : InitOk dflt init) :
    ListP DeltaOk (Books.init dflt init) (deltaList dflt init txs).1 ∧
    ∀ f, (deltaList dflt init txs).2 = some f → UserErr f := by
  obtain ⟨t, ht, hinv⟩ := Tracker.new_wf hi
  obtain ⟨h1, h2⟩ := deltaList_gen wfStepSpec dflt init txs (fun _ h => Except.ok.inj (ht.symm.trans h) ▸ hinv) hv
  exact ⟨h1, fun f hf => (h2 f hf).resolve_right (ht ▸ nofun)⟩

end Acb
