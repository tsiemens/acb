/-
  Split neutrality (C15), phase 1: the forward scans of the rows before the inserted split run into
  the split rows and the restated rows instead of the original rows; only the scan's per-affiliate
  adjustment factors differ, and the window scan discards those.
-/
import AcbModel.Lemmas.SplitRows
namespace Acb

/-- scan states equal except for the split-adjustment factors -/
structure EqModAdj (s s' : Scan) : Prop where
  allEop : s'.allEop = s.allEop
  acquired : s'.acquired = s.acquired
  buyers : s'.buyers = s.buyers
  active : s'.active = s.active

def ResEqModAdj : Except Failure Scan → Except Failure Scan → Prop
  | .error e, .error e' => e = e'
  | .ok s, .ok s' => EqModAdj s s'
  | _, _ => False

theorem resEqModAdj_iff {a b : Except Failure Scan} : ResEqModAdj a b ↔ ExceptRel EqModAdj a b := by
  cases a <;> cases b <;> exact Iff.rfl

theorem EqModAdj.refl (s : Scan) : EqModAdj s s := ⟨rfl, rfl, rfl, rfl⟩

/-- the run with the split, past the split rows: factors divided by `f` -/
structure FwdRel (f : Rat) (As : List Aff) (s s' : Scan) : Prop extends EqModAdj s s' where
  adj : ∀ a ∈ As, s'.adj a = s.adj a / f

theorem fwdStep_restated {f : Rat} (hf : 0 < f) {t : Tracker} {As : List Aff} {s s' : Scan}
    (h : FwdRel f As s s') {x : Tx} (hxA : x.aff ∈ As) :
    ExceptRel (FwdRel f As) (fwdStep t s x) (fwdStep t s' (restateTx f x)) := by
  unfold fwdStep
  simp only [restateTx_act, restateTx_aff, h.adj x.aff hxA, h.allEop, h.acquired, h.buyers, h.active]
  cases x.act with
  | buy sh px comm rate crate =>
    simp only [restateAct, restate_amount' (Rat.ne_of_gt hf)]
    exact ⟨⟨rfl, rfl, rfl, rfl⟩, h.adj⟩
  | sell sh px comm rate crate spec =>
    simp only [restateAct, restate_amount' (Rat.ne_of_gt hf)]
    exact exceptRel_ite (fun _ => rfl) fun _ => exceptRel_ite (fun _ => rfl) fun _ => ⟨⟨rfl, rfl, rfl, rfl⟩, h.adj⟩
  | split po pr io =>
    refine ⟨⟨rfl, rfl, rfl, rfl⟩, fun a ha => ?_⟩
    simp only [upd]
    split
    · grind
    · exact h.adj a ha
  | _ => exact h

theorem scanFwd_restated {f : Rat} (hf : 0 < f) {t : Tracker} (lastDay : Int) {As : List Aff}
    {r : List Tx} (hr : ∀ x ∈ r, x.aff ∈ As) {s s' : Scan} (h : FwdRel f As s s') :
    ExceptRel EqModAdj (scanFwd t lastDay s r) (scanFwd t lastDay s' (r.map (restateTx f))) := by
  have hw := (Forall2.map_right (R := fun x x' => x' = restateTx f x) (fun _ => rfl) r).and_left hr
  exact (scanFwd_lockstep (X := fun x x' => x.aff ∈ As ∧ x' = restateTx f x) lastDay (fun hx => hx.2 ▸ rfl)
    (fun h hx => hx.2 ▸ fwdStep_restated hf h hx.1) hw h).mono
    fun _ _ h => h.toEqModAdj

theorem scanFwd_mixed {t : Tracker} (lastDay day : Int) (idx : Nat) (post pre : Rat)
    (hf : 0 < splitFactor post pre) (As : List Aff) (hn : As.Nodup)
    (r : List Tx) (hr : ∀ x ∈ r, x.aff ∈ As ∧ day ≤ x.settle) :
    ∀ (qs : List Tx) (s : Scan),
      ResEqModAdj (scanFwd t lastDay s (qs ++ r))
        (scanFwd t lastDay s (qs ++ splitRows day idx post pre As ++ r.map (restateTx (splitFactor post pre)))) := by
  intro qs s
  rw [resEqModAdj_iff]
  induction qs generalizing s with
  | nil =>
    simp only [List.nil_append]
    by_cases hd : day > lastDay
    · -- the window ends before the split: neither scan looks at a row
      have hlt : ∀ x ∈ r, lastDay < x.settle := fun x hx => Int.lt_of_lt_of_le hd (hr x hx).2
      rw [scanFwd_stop t s hlt, scanFwd_stop t s (List.forall_mem_append.mpr
        ⟨fun x hx => splitRows_settle hx ▸ hd, (List.forall_mem_map (f := restateTx _)).mpr hlt⟩)]
      exact EqModAdj.refl s
    · rw [scanFwd_splitRows t (Int.not_lt.mp hd) idx post pre _ hn]
      exact scanFwd_restated hf lastDay (fun x hx => (hr x hx).1) 
        ⟨⟨rfl, rfl, rfl, rfl⟩, fun a ha => by simp only [ha, if_true]⟩
  | cons x qs ih =>
    simp only [List.cons_append]
    rw [scanFwd_cons, scanFwd_cons]
    split
    · exact EqModAdj.refl s
    · cases fwdStep t s x with
      | error e => rfl
      | ok s2 => exact ih s2

/-- A window scan reads the rows to come only through the forward scan, and of its result not the
    adjustment factors. -/
theorem sflInfo_congr_future {t : Tracker} {seller : Aff} {settle : Int} {sold : Rat} {past fa fb : List Tx}
    (h : ∀ lastDay s, ExceptRel EqModAdj (scanFwd t lastDay s fa) (scanFwd t lastDay s fb)) :
    sflInfo t seller settle sold past fb = sflInfo t seller settle sold past fa := by
  rw [sflInfo_eq, sflInfo_eq]
  refine (h (settle + Gen.sflWindowAfterDays) (initScan t seller sold)).elim (fun e => rfl) fun s1 s1' hs => ?_
  simp only [Except.map, sliOf, hs.allEop, hs.acquired, hs.buyers, hs.active]

theorem stepRow_congr_future {t : Tracker} {fa fb : List Tx}
    (h : ∀ lastDay s, ExceptRel EqModAdj (scanFwd t lastDay s fa) (scanFwd t lastDay s fb))
    (x : Tx) (past : List Tx) : stepRow t x past fb = stepRow t x past fa :=
  stepRow_congr fun _ sold => by rw [sflRatio_eq, sflRatio_eq, sflInfo_congr_future h]

theorem Runs.before_split {day : Int} (idx : Nat) {post pre : Rat} (hf : 0 < splitFactor post pre)
    {As : List Aff} (hn : As.Nodup) {r : List Tx} (hr : ∀ x ∈ r, x.aff ∈ As ∧ day ≤ x.settle)
    {t : Tracker} {past q : List Tx} {ds : List Delta} {e : RunEnd} (h : Runs r t past q ds e) :
    Runs (splitRows day idx post pre As ++ r.map (restateTx (splitFactor post pre))) t past q ds e :=
  h.congr_tail fun t x past w => stepRow_congr_future (fun lastDay s => by
    rw [← List.append_assoc]
    exact resEqModAdj_iff.mp (scanFwd_mixed lastDay day idx post pre hf As hn r hr w s)) x past

end Acb
