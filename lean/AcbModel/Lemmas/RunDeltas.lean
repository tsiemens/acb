/-
  What the deltas of a run look like.  All of it rests on the generated rows carrying the date of
  their sale.
-/
import AcbModel.Lemmas.Loop
import AcbModel.Lemmas.ScanStep
namespace Acb

abbrev DSorted (l : List Delta) : Prop := l.Pairwise (fun a b => a.tx.settle ≤ b.tx.settle)

/-- the last delta (so far) of affiliate `a` -/
def lastD (acc : List Delta) (a : Aff) : Option Delta :=
  acc.foldl (fun o d => if d.tx.aff = a then some d else o) none

theorem lastD_nil (a : Aff) : lastD [] a = none := rfl

theorem lastD_snoc (acc : List Delta) (d : Delta) (a : Aff) :
    lastD (acc ++ [d]) a = if d.tx.aff = a then some d else lastD acc a := by
  simp [lastD, List.foldl_append]

theorem lastD_eq_find (acc : List Delta) (a : Aff) :
    lastD acc a = acc.reverse.find? (fun d => decide (d.tx.aff = a)) := by
  rw [lastD, List.foldl_eq_foldr_reverse]
  induction acc.reverse with
  | nil => rfl
  | cons d l ih => by_cases h : d.tx.aff = a <;> simp [h, ih]

theorem lastD_some {acc : List Delta} {a : Aff} {d : Delta} (h : lastD acc a = some d) :
    d.tx.aff = a ∧ d ∈ acc := by
  rw [lastD_eq_find] at h
  exact ⟨by simpa using List.find?_some h, List.mem_reverse.mp (List.mem_of_find?_eq_some h)⟩

/-- the tracker holds, per affiliate, the `post` of its last delta -/
def TrackInv (t : Tracker) (acc : List Delta) : Prop := ∀ a, t.m a = (lastD acc a).map (·.post)

theorem TrackInv.empty (dflt : Aff) : TrackInv (.empty dflt) [] := fun _ => rfl

theorem TrackInv.bal {t : Tracker} {acc : List Delta} (h : TrackInv t acc) {a : Aff} {d : Delta}
    (hd : lastD acc a = some d) : t.bal a = d.post.shares :=
  bal_of_some (by rw [h a, hd]; rfl)

theorem TrackInv.acbOf {t : Tracker} {acc : List Delta} (h : TrackInv t acc) {a : Aff} {d : Delta}
    (hd : lastD acc a = some d) : t.acbOf a = d.post.acb :=
  acbOf_of_some (by rw [h a, hd]; rfl)

theorem TrackInv.none {t : Tracker} {acc : List Delta} (h : TrackInv t acc) {a : Aff}
    (hd : lastD acc a = none) : t.m a = none := by
  rw [h a, hd]
  rfl

theorem Runs.track {r : List Tx} {t : Tracker} {past p : List Tx} {ds : List Delta} {t2 : Tracker}
    {past2 : List Tx} (h : Runs r t past p ds (.inl (t2, past2))) {acc : List Delta}
    (hi : TrackInv t acc) : TrackInv t2 (acc ++ ds) := by
  generalize he : (Sum.inl (t2, past2) : RunEnd) = e at h
  induction h generalizing acc with
  | done =>
    cases he
    simpa using hi
  | fail => cases he
  | @step t past x p d t' inj ds e hs _ ih =>
    have := ih (acc := acc ++ [d]) (fun a => ?_) he
    · simpa using this
    · cases stepRow_put hs
      rw [lastD_snoc, stepRow_tx hs]
      by_cases e : x.aff = a
      · subst e
        simp
      · simp [upd_of_ne _ _ (Ne.symm e), e, hi a]

/-- the deltas appended by a block: all carry the date `day` -/
def AllDated (day : Int) (ext : List Delta) : Prop := ∀ d ∈ ext, d.tx.settle = day

/-- what a run appends: for every row a delta of that row; every delta carries the date of one of
    the rows; and the dates come in the order of the rows -/
structure ExtOf (q : List Tx) (ext : List Delta) : Prop where
  dated : ∀ d ∈ ext, d.tx.settle ∈ q.map (·.settle)
  own : ∀ x ∈ q, ∃ d ∈ ext, d.tx = x
  sorted : q.Pairwise (fun a b => a.settle ≤ b.settle) →
    ext.Pairwise (fun a b => a.tx.settle ≤ b.tx.settle)

theorem stepRow_inj_settle {t t' : Tracker} {x : Tx} {past future : List Tx} {d : Delta} {inj : List Tx}
    (hs : stepRow t x past future = .ok (d, t', inj)) : ∀ y ∈ inj, y.settle = x.settle := by
  intro y hy
  obtain ⟨_, _, _, _, rfl⟩ := stepRow_inj_row hs hy
  rfl

theorem settleAsc_inj {x : Tx} {inj l : List Tx} (h : SettleAsc (x :: l))
    (hinj : ∀ y ∈ inj, y.settle = x.settle) : SettleAsc (inj ++ l) := by
  refine List.pairwise_append.mpr ⟨List.pairwise_iff_forall_sublist.mpr fun {a b} hab => ?_, h.tail, fun a ha b hb => ?_⟩
  · rw [hinj a (hab.subset (by simp)), hinj b (hab.subset (by simp))]
    exact Int.le_refl _
  · rw [hinj a ha]
    exact (List.pairwise_cons.mp h).1 b hb

theorem Runs.dated {r : List Tx} {t : Tracker} {past p : List Tx} {ds : List Delta} {e : RunEnd}
    (h : Runs r t past p ds e) : ∀ d ∈ ds, ∃ x ∈ p, d.tx.settle = x.settle := by
  induction h with
  | done => simp
  | fail => simp
  | @step t past x p d t' inj ds e hs _ ih =>
    intro d' hd'
    rcases List.mem_cons.mp hd' with rfl | hd'
    · exact ⟨x, by simp, by rw [stepRow_tx hs]⟩
    · obtain ⟨y, hy, hdy⟩ := ih d' hd'
      rcases List.mem_append.mp hy with hy | hy
      · exact ⟨x, by simp, hdy.trans (stepRow_inj_settle hs y hy)⟩
      · exact ⟨y, by simp [hy], hdy⟩

theorem Runs.past_dated {r : List Tx} {t t2 : Tracker} {past past2 p : List Tx} {ds : List Delta}
    (h : Runs r t past p ds (.inl (t2, past2))) : ∀ y ∈ past2, y ∈ past ∨ ∃ x ∈ p, y.settle = x.settle := by
  intro y hy
  rw [h.past, List.mem_append, List.mem_reverse, List.mem_map] at hy
  rcases hy with ⟨d, hd, rfl⟩ | hy
  · exact .inr (h.dated d hd)
  · exact .inl hy

theorem Runs.sorted {r : List Tx} {t : Tracker} {past p : List Tx} {ds : List Delta} {e : RunEnd}
    (h : Runs r t past p ds e) (hp : SettleAsc p) : DSorted ds := by
  induction h with
  | done => exact .nil
  | fail => exact .nil
  | @step t past x p d t' inj ds e hs hr ih =>
    have hinj := stepRow_inj_settle hs
    refine List.pairwise_cons.mpr ⟨fun d' hd' => ?_, ih (settleAsc_inj hp hinj)⟩
    obtain ⟨y, hy, hdy⟩ := hr.dated d' hd'
    rw [stepRow_tx hs, hdy]
    rcases List.mem_append.mp hy with hy | hy
    · exact Int.le_of_eq (hinj y hy).symm
    · exact (List.pairwise_cons.mp hp).1 y hy

theorem Runs.own {r : List Tx} {t t2 : Tracker} {past past2 p : List Tx} {ds : List Delta}
    (h : Runs r t past p ds (.inl (t2, past2))) : ∀ x ∈ p, ∃ d ∈ ds, d.tx = x := by
  generalize he : (Sum.inl (t2, past2) : RunEnd) = e at h
  induction h with
  | done => simp
  | fail => cases he
  | step hs _ ih =>
    intro y hy
    rcases List.mem_cons.mp hy with rfl | hy
    · exact ⟨_, by simp, stepRow_tx hs⟩
    · obtain ⟨e, he', hey⟩ := ih he y (by simp [hy])
      exact ⟨e, by simp [he'], hey⟩

theorem Runs.extOf {r : List Tx} {t : Tracker} {past p : List Tx} {ds : List Delta} {t2 : Tracker}
    {past2 : List Tx} (h : Runs r t past p ds (.inl (t2, past2))) : ExtOf p ds :=
  ⟨fun d hd => by
    obtain ⟨x, hx, hdx⟩ := h.dated d hd
    exact List.mem_map.mpr ⟨x, hx, hdx.symm⟩, h.own, h.sorted⟩

/-- A cut of the deltas at a strict increase of the date is a cut of the rows: the rows a sale
    generates carry its date, so the cut does not fall between them. -/
theorem Runs.cut {r : List Tx} {t t2 : Tracker} {past past2 p : List Tx} {ds : List Delta}
    (h : Runs r t past p ds (.inl (t2, past2))) (k : Nat)
    (hcut : ∀ d ∈ ds.take k, ∀ e ∈ ds.drop k, d.tx.settle < e.tx.settle) :
    ∃ p1 p2 t1 past1, p = p1 ++ p2 ∧ Runs (p2 ++ r) t past p1 (ds.take k) (.inl (t1, past1)) ∧
      Runs r t1 past1 p2 (ds.drop k) (.inl (t2, past2)) := by
  generalize he : (Sum.inl (t2, past2) : RunEnd) = e at h
  induction h generalizing k with
  | done =>
    cases he
    exact ⟨[], [], _, _, rfl, by simpa using .done, by simpa using .done⟩
  | fail => cases he
  | @step t past x p d t1 inj ds e hs hr ih =>
    subst he
    cases k with
    | zero => exact ⟨[], x :: p, t, past, rfl, .done, .step hs hr⟩
    | succ k =>
      obtain ⟨p1, p2, tm, pm, hp, hr1, hr2⟩ := ih k (fun a ha b hb => hcut a (by simp [ha]) b hb) rfl
      rcases List.append_eq_append_iff.mp hp with ⟨a', rfl, rfl⟩ | ⟨c', hinj, rfl⟩
      · exact ⟨x :: a', p2, tm, pm, rfl, .step (by simpa using hs) hr1, hr2⟩
      · cases c' with
        | nil =>
          subst hinj
          exact ⟨[x], p, tm, pm, rfl, .step (by simpa using hs) (by simpa using hr1), by simpa using hr2⟩
        | cons y c' =>
          obtain ⟨d2, hd2, hy⟩ := hr2.own y (by simp)
          have := hcut d (by simp) d2 hd2
          rw [stepRow_tx hs, hy, stepRow_inj_settle hs y (by simp [hinj])] at this
          omega

theorem loopPrefix_cut :
    ∀ (q r : List Tx) (t : Tracker) (past : List Tx) (acc : List Delta) (t2 : Tracker) (past2 : List Tx)
      (ext : List Delta), loopPrefix t past acc q r = .inl (t2, past2, acc ++ ext) →
      ∀ k, k ≤ ext.length → (∀ d ∈ ext.take k, ∀ e ∈ ext.drop k, d.tx.settle < e.tx.settle) →
      ∃ q1 q2 t1 past1, q = q1 ++ q2 ∧
        loopPrefix t past acc q1 (q2 ++ r) = .inl (t1, past1, acc ++ ext.take k) ∧
        loopPrefix t1 past1 (acc ++ ext.take k) q2 r = .inl (t2, past2, acc ++ ext) := by
  intro q r t past acc t2 past2 ext h k _ hcut
  obtain ⟨ds, hr, he⟩ := loopPrefix_inl h
  cases List.append_cancel_left he
  obtain ⟨q1, q2, t1, past1, hq, hr1, hr2⟩ := hr.cut k hcut
  exact ⟨q1, q2, t1, past1, hq, hr1.loopPrefix acc, by simpa using hr2.loopPrefix (acc ++ ext.take k)⟩

end Acb
