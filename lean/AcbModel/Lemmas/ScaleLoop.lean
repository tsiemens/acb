/-
  Split neutrality (C15), phase 3: past the inserted split rows every iteration is the scaled one.
  Then the three phases together (`deltaLoop_splitNeutral`).
-/
import AcbModel.Lemmas.ScaleStep
import AcbModel.Lemmas.BeforeSplit
import AcbModel.Lemmas.Lockstep
import AcbModel.Lemmas.RunDeltas
namespace Acb

theorem scanBwd_unscaled {f : Rat} {t t' : Tracker} (ht : TrackerScaled f t t') (firstDay : Int) {As : List Aff}
    {past : List Tx} (hA : ∀ x ∈ past, x.aff ∈ As) {s s' : Scan} (h : BwdRel f f As s s') :
    BwdFinal f (scanBwd t firstDay s past) (scanBwd t' firstDay s' past) := by
  rw [← List.append_nil past]
  exact scanBwd_lockstep (R := BwdRel f f As) (X := fun x x' => x.aff ∈ As ∧ x = x') firstDay
    (fun hx => hx.2 ▸ rfl)
    (fun h hx => by
      obtain ⟨hxA, rfl⟩ := hx
      simpa only [restateTx_one] using bwdStep_rel (Rat.one_mul f) ht h hxA)
    BwdRel.final BwdRel.final ((Forall2.refl_of fun _ _ => rfl).and_left hA) h

/-- The processed rows of the run with the split: the restated rows since the split (`p1'`), the
    split rows, the rows before the split (`p0`, untouched). -/
theorem pastScaled_mixed {f : Rat} {t t' : Tracker} (ht : TrackerScaled f t t') (day : Int) (idx : Nat)
    (post pre : Rat) (hf : f = splitFactor post pre) {As : List Aff} (hn : As.Nodup)
    {p0 : List Tx} (hp0 : ∀ x ∈ p0, x.aff ∈ As ∧ x.settle ≤ day) {p1 p1' : List Tx}
    (hrel : Forall2 (RowRel f) p1 p1') (hp1 : ∀ x ∈ p1, x.aff ∈ As) :
    PastScaled f t t' (p1 ++ p0) (p1' ++ splitRows day idx post pre As ++ p0) := by
  intro firstDay s s' hs
  rw [List.append_assoc]
  refine scanBwd_lockstep (R := BwdRel f 1 As) firstDay (fun hx => hx.2.settle) (fun h hx => ?_) BwdRel.final (fun h => ?_)
    (hrel.and_left hp1) ⟨fun _ _ => (Rat.mul_one _).symm, hs.acquired, hs.buyers, hs.active⟩
  · rcases hx.2 with rfl | ⟨⟨_, _, hs⟩, rfl⟩
    · exact bwdStep_rel (Rat.mul_one f) ht h hx.1
    · rw [bwdStep_sfla hs, bwdStep_sfla hs]
      exact h
  · by_cases hd : day < firstDay
    · -- the window begins after the split: neither scan looks at a row
      have hlt : ∀ x ∈ p0, x.settle < firstDay := fun x hx => Int.lt_of_le_of_lt (hp0 x hx).2 hd
      rw [scanBwd_stop t _ hlt,
        scanBwd_stop t' _ (List.forall_mem_append.mpr ⟨fun x hx => splitRows_settle hx ▸ hd, hlt⟩)]
      exact h.final
    · rw [scanBwd_splitRows t' (Int.not_lt.mp hd) idx post pre p0 hn]
      refine scanBwd_unscaled ht firstDay (fun x hx => (hp0 x hx).1) ⟨fun a ha => ?_, h.acquired, h.buyers, h.active⟩
      simp only [ha, if_true, h.adj a ha, hf, Rat.mul_one]

inductive DeltasRel (f : Rat) : List Delta → List Delta → Prop
  | nil : DeltasRel f [] []
  | cons {d d' : Delta} {ds ds' : List Delta} : DeltaScaled f d d' → DeltasRel f ds ds' → DeltasRel f (d :: ds) (d' :: ds')

theorem DeltasRel.append {f : Rat} {a a' b b' : List Delta} (h1 : DeltasRel f a a') (h2 : DeltasRel f b b') :
    DeltasRel f (a ++ b) (a' ++ b') := by
  induction h1 with
  | nil => simpa using h2
  | cons hd _ ih => exact .cons hd ih

theorem DeltasRel.length {f : Rat} {a a' : List Delta} (h : DeltasRel f a a') : a'.length = a.length := by
  induction h with
  | nil => rfl
  | cons _ _ ih => simp [ih]

theorem DeltasRel.of_forall2 {f : Rat} {a a' : List Delta} (h : Forall2 (DeltaScaled f) a a') : DeltasRel f a a' := by
  induction h with
  | nil => exact .nil
  | cons hd _ ih => exact .cons hd ih

theorem DeltasRel.filterMap_eq {f : Rat} {γ : Type} (g : Delta → Option γ)
    (hg : ∀ {d d'}, DeltaScaled f d d' → g d' = g d) {a a' : List Delta} (h : DeltasRel f a a') :
    a'.filterMap g = a.filterMap g := by
  induction h with
  | nil => rfl
  | cons hd _ ih => simp only [List.filterMap_cons, hg hd, ih]

/-- The states of the two runs after the inserted split rows `S`: scaled tracker; the rows
    processed since then (`p1`, `p1'`) correspond, those before (`p0`) are the same. -/
inductive StateScaled (f : Rat) (As : List Aff) (S p0 : List Tx) : Tracker → List Tx → Tracker → List Tx → Prop
  | mk {t t' : Tracker} {p1 p1' : List Tx} : TrackerScaled f t t' → Forall2 (RowRel f) p1 p1' →
      (∀ y ∈ p1, y.aff ∈ As) → StateScaled f As S p0 t (p1 ++ p0) t' (p1' ++ S ++ p0)

theorem stepRow_stateScaled {f : Rat} (hf : 0 < f) (day : Int) (idx : Nat) (post pre : Rat)
    (hfac : f = splitFactor post pre) {As : List Aff} (hn : As.Nodup)
    {p0 : List Tx} (hp0 : ∀ y ∈ p0, y.aff ∈ As ∧ y.settle ≤ day) {t t' : Tracker} {p p' : List Tx}
    (hS : StateScaled f As (splitRows day idx post pre As) p0 t p t' p') {x x' : Tx} (hx : RowRel f x x')
    (hg : x.aff ∈ As ∧ NoIntOnly x) {w w' : List Tx} (hw : Forall2 (RowRel f) w w')
    (hgw : ∀ y ∈ w, y.aff ∈ As ∧ NoIntOnly y) :
    ExceptRel (fun a b => DeltaScaled f a.1 b.1 ∧
        StateScaled f As (splitRows day idx post pre As) p0 a.2.1 (x :: p) b.2.1 (x' :: p') ∧
        Forall2 (RowRel f) a.2.2 b.2.2 ∧ ∀ y ∈ a.2.2, y.aff ∈ As ∧ NoIntOnly y)
      (stepRow t x p w) (stepRow t' x' p' w') := by
  cases hS with
  | @mk _ p1 p1' ht hrel hp1 =>
    rcases (stepRow_scaled hf ht hx hg.2 (pastScaled_mixed ht day idx post pre hfac hn hp0 hrel hp1) hw).cases with
      ⟨e, h1, h2⟩ | ⟨⟨d, t2, inj⟩, ⟨d', t2', inj'⟩, h1, h2, hd, ht2, rfl⟩
    · rw [h1, h2]
      rfl
    · rw [h1, h2]
      have hinj := stepRow_inj h1
      refine ⟨hd, .mk (p1 := x :: p1) (p1' := x' :: p1') ht2 (.cons hx hrel) (List.forall_mem_cons.mpr ⟨hg.1, hp1⟩),
        .refl_of fun y hy => .inr ⟨isSflaRow_iff.mpr (hinj y hy), rfl⟩, fun y hy => ⟨?_, fun po pr io h => ?_⟩⟩
      · exact stepRow_inj_aff (· ∈ As) (List.forall_mem_append.mpr ⟨hp1, fun z hz => (hp0 z hz).1⟩)
          (fun z hz => (hgw z hz).1) h1 y hy
      · obtain ⟨sh, ps, hy⟩ := hinj y hy
        rw [hy] at h
        cases h

theorem deltaLoop_scaled {f : Rat} (hf : 0 < f) (day : Int) (idx : Nat) (post pre' : Rat)
    (hfac : f = splitFactor post pre') (As : List Aff) (hn : As.Nodup)
    (p0 : List Tx) (hp0 : ∀ y ∈ p0, y.aff ∈ As ∧ y.settle ≤ day) :
    ∀ (r : List Tx), (∀ x ∈ r, x.aff ∈ As ∧ NoIntOnly x) →
    ∀ (t t' : Tracker), TrackerScaled f t t' → ∀ (p1 p1' : List Tx), RowsRel f p1 p1' → (∀ y ∈ p1, y.aff ∈ As) →
    ∀ (acc acc' : List Delta),
      ∃ out out', (deltaLoop t (p1 ++ p0) acc r).1 = acc ++ out ∧
        (deltaLoop t' (p1' ++ splitRows day idx post pre' As ++ p0) acc' (r.map (restateTx f))).1 = acc' ++ out' ∧
        DeltasRel f out out' ∧
        (deltaLoop t' (p1' ++ splitRows day idx post pre' As ++ p0) acc' (r.map (restateTx f))).2 =
          (deltaLoop t (p1 ++ p0) acc r).2 := by
  intro r hr t t' ht p1 p1' hrel hp1 acc acc'
  obtain ⟨ds, e, hruns, he⟩ := deltaLoop_runs r t (p1 ++ p0) acc
  obtain ⟨ds', e', hruns', hD, hE⟩ := hruns.lockstep
    (S := StateScaled f As (splitRows day idx post pre' As) p0) (X := RowRel f) (D := DeltaScaled f)
    (G := fun x => x.aff ∈ As ∧ NoIntOnly x)
    (fun hS hx hg hw hgw => stepRow_stateScaled hf day idx post pre' hfac hn hp0 hS hx hg hw hgw) .nil (by simp)
    (.mk ht hrel.forall2 hp1) (Forall2.map_right (R := RowRel f) (g := restateTx f) (fun _ => .inl rfl) r) hr
  rw [he, hruns'.deltaLoop acc']
  exact ⟨ds, ds', rfl, rfl, .of_forall2 hD, hE.failure⟩

/-- What "value-neutral" means for the two reports `A` (history `q ++ r`) and `B` (the same
    history with an `f`-fold split inserted after `q` and the rows of `r` restated): the same
    failure (or none); the rows before the split are identical; `B` has the split rows (no gain,
    no superficial loss, cost base untouched); and the later rows correspond one to one with the
    same gain, superficial-loss amount and cost base, and share figures multiplied by `f`. -/
structure SplitNeutral (f : Rat) (n : Nat) (A B : List Delta × Option Failure) : Prop where
  fail : B.2 = A.2
  rows : ∃ dq dr sd dr', A.1 = dq ++ dr ∧ B.1 = dq ++ sd ++ dr' ∧ DeltasRel f dr dr' ∧
    (∀ d ∈ sd, SplitDelta d) ∧ sd.length ≤ n ∧ (A.2 = none → sd.length = n)

theorem SplitNeutral.filterMap_eq {f : Rat} {n : Nat} {A B : List Delta × Option Failure} (h : SplitNeutral f n A B)
    {γ : Type} (g : Delta → Option γ) (hg : ∀ {d d'}, DeltaScaled f d d' → g d' = g d)
    (hs : ∀ {d}, SplitDelta d → g d = none) : B.1.filterMap g = A.1.filterMap g := by
  obtain ⟨dq, dr, sd, dr', hA, hB, hrel, hsd, _, _⟩ := h.rows
  have : sd.filterMap g = [] := List.filterMap_eq_nil_iff.mpr fun d hd => hs (hsd d hd)
  rw [hA, hB, List.filterMap_append, List.filterMap_append, List.filterMap_append, this, hrel.filterMap_eq g hg,
    List.append_nil]

/-- The three phases: the rows of `q` cannot tell the two futures apart; the split rows scale the
    tracker; from there on the runs go in lock step. -/
theorem deltaLoop_splitNeutral {As : List Aff} (hn : As.Nodup) {t : Tracker} (hw : TrackerWFOn As t) {day : Int}
    {past : List Tx} (hpast : ∀ y ∈ past, y.Valid ∧ y.aff ∈ As ∧ y.settle ≤ day) (idx : Nat) {post pre : Rat}
    (hf : 0 < splitFactor post pre) {q r : List Tx} (hq : ∀ x ∈ q, x.Valid ∧ x.aff ∈ As ∧ x.settle ≤ day)
    (hr : ∀ x ∈ r, x.Valid ∧ x.aff ∈ As ∧ day ≤ x.settle ∧ NoIntOnly x) :
    SplitNeutral (splitFactor post pre) As.length (deltaLoop t past [] (q ++ r))
      (deltaLoop t past [] (q ++ splitRows day idx post pre As ++ r.map (restateTx (splitFactor post pre)))) := by
  obtain ⟨dq, e, hruns⟩ := Runs.exists r t past q
  rw [List.append_assoc, hruns.deltaLoop_append,
    (hruns.before_split idx hf hn fun x hx => ⟨(hr x hx).2.1, (hr x hx).2.2.1⟩).deltaLoop_append]
  cases e with
  | inr e => exact ⟨rfl, dq, [], [], [], by simp, by simp, .nil, by simp, by simp, by simp⟩
  | inl s =>
    obtain ⟨t2, past2⟩ := s
    obtain ⟨hw2, hv2⟩ := hruns.wfOn (fun x hx => ⟨(hr x hx).1, (hr x hx).2.1⟩) hw
      (fun x hx => ⟨(hq x hx).1, (hq x hx).2.1⟩) (fun x hx => ⟨(hpast x hx).1, (hpast x hx).2.1⟩)
    have hday : ∀ y ∈ past2, y.settle ≤ day := fun y hy =>
      (hruns.past_dated y hy).elim (fun h => (hpast y h).2.2) fun ⟨x, hx, hxy⟩ => hxy ▸ (hq x hx).2.2
    simp only [List.nil_append]
    -- the processed rows stand most recent first: the split rows as those of `As.reverse`
    obtain ⟨c2, sd, hloop, hr2, hbal, hacb, hlen, hsd⟩ := deltaLoop_splitRows hn day idx post pre hf As hn (fun a h => h)
      t2 past2 dq (r.map (restateTx (splitFactor post pre))) hw2.ready
    rw [hloop, splitRows_reverse]
    obtain ⟨out, out', g1, g2, g3, g4⟩ := deltaLoop_scaled hf day idx post pre rfl As.reverse ((List.reverse_perm As).nodup_iff.mpr hn)
      past2 (fun y hy => ⟨List.mem_reverse.mpr (hv2 y hy).2, hday y hy⟩) r
      (fun x hx => ⟨List.mem_reverse.mpr (hr x hx).2.1, (hr x hx).2.2.2⟩) t2 c2
      (trackerScaled_of_split hw2.sumInv hr2.sum hbal hacb) [] [] .nil (by simp) dq (dq ++ sd)
    exact ⟨g4, dq, out, sd, out', g1, g2, g3, hsd, by omega, fun _ => hlen⟩

end Acb
