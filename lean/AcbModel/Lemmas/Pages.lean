/-
  Page ordering (C20): the test `found_pages.len() != num_pages` is pigeonhole (`safeChunks_eq`);
  `loadPages_spec` is the frame statement for `load_pages`: what the vector held before is irrelevant to the iterator.
-/
import AcbModel.Broker.Pages
import AcbModel.Lemmas.Lists
namespace Acb.Pages

theorem mem_safeChunk {n p : Nat} {c : List Nat} :
    p ∈ safeChunk n c ↔ p ∈ c ∧ 1 ≤ p ∧ p ≤ n := by
  simp only [safeChunk, List.mem_filter, Bool.and_eq_true, decide_eq_true_eq]
  exact and_congr_right fun _ => and_comm

theorem keptChunks_ne_nil {n : Nat} {hints : List (List Nat)} : ∀ g ∈ keptChunks n hints, g ≠ [] := by
  intro g hg h
  simp [keptChunks, h] at hg

theorem keptChunks_flatten (n : Nat) (hints : List (List Nat)) :
    (keptChunks n hints).flatten = hints.flatten.filter (fun p => decide (p ≤ n) && decide (0 < p)) := by
  have h : (fun c : List Nat => decide (0 < c.length)) = fun c => !c.isEmpty := by
    funext c
    cases c <;> rfl
  rw [keptChunks, h, List.flatten_filter_not_isEmpty, List.filter_flatten]
  rfl

theorem mem_keptChunks_flatten {n p : Nat} {hints : List (List Nat)} :
    p ∈ (keptChunks n hints).flatten ↔ p ∈ hints.flatten ∧ 1 ≤ p ∧ p ≤ n := by
  rw [keptChunks_flatten, List.mem_filter, Bool.and_eq_true, decide_eq_true_eq, decide_eq_true_eq]
  exact and_congr_right fun _ => and_comm

theorem mem_insertSet {s : List Nat} {p q : Nat} : q ∈ insertSet s p ↔ q = p ∨ q ∈ s := by
  unfold insertSet
  split <;> simp_all

theorem nodup_insertSet {s : List Nat} {p : Nat} (h : s.Nodup) : (insertSet s p).Nodup := by
  unfold insertSet
  split <;> simp_all

theorem foldl_insertSet_spec (l s : List Nat) (hs : s.Nodup) :
    (l.foldl insertSet s).Nodup ∧ ∀ q, q ∈ l.foldl insertSet s ↔ q ∈ l ∨ q ∈ s := by
  induction l generalizing s with
  | nil => simp [hs]
  | cons p l ih =>
    obtain ⟨h1, h2⟩ := ih (insertSet s p) (nodup_insertSet hs)
    refine ⟨h1, fun q => ?_⟩
    rw [List.foldl_cons, h2, mem_insertSet, List.mem_cons]
    exact or_left_comm.trans or_assoc.symm

theorem nodup_toSet (l : List Nat) : (toSet l).Nodup := (foldl_insertSet_spec l [] List.nodup_nil).1

theorem mem_toSet {l : List Nat} {q : Nat} : q ∈ toSet l ↔ q ∈ l := by
  simpa [toSet] using (foldl_insertSet_spec l [] List.nodup_nil).2 q

/-- `extra_chunk` in `safe_page_chunks_with_remainder_pn` -/
def remainder (n : Nat) (hints : List (List Nat)) : List Nat :=
  (List.range' 1 n).filter (fun p => !(toSet (keptChunks n hints).flatten).contains p)

theorem mem_remainder {n p : Nat} {hints : List (List Nat)} :
    p ∈ remainder n hints ↔ (1 ≤ p ∧ p ≤ n) ∧ p ∉ hints.flatten := by
  simp only [remainder, List.mem_filter, List.mem_range'_1, List.contains_eq_mem, mem_toSet,
    mem_keptChunks_flatten, Bool.not_eq_true', decide_eq_false_iff_not]
  constructor
  · rintro ⟨hr, hn⟩
    exact ⟨by omega, fun hp => hn ⟨hp, by omega⟩⟩
  · rintro ⟨hr, hn⟩
    exact ⟨by omega, fun h => hn h.1⟩

theorem safeChunks_eq (n : Nat) (hints : List (List Nat)) :
    safeChunks n hints = keptChunks n hints ++ if remainder n hints = [] then [] else [remainder n hints] := by
  have hsub : toSet (keptChunks n hints).flatten ⊆ List.range' 1 n := fun q hq => by
    have := (mem_keptChunks_flatten.mp (mem_toSet.mp hq)).2
    rw [List.mem_range'_1]
    omega
  have key : (toSet (keptChunks n hints).flatten).length = n ↔ remainder n hints = [] := by
    simpa [remainder, List.subset_def] using length_eq_iff_subset (nodup_toSet _) List.nodup_range' hsub
  show (if (toSet (keptChunks n hints).flatten).length = n then keptChunks n hints
    else keptChunks n hints ++ [remainder n hints]) = _
  by_cases h : remainder n hints = []
  · rw [if_pos (key.mpr h), if_pos h, List.append_nil]
  · rw [if_neg (mt key.mp h), if_neg h]

theorem safeChunks_flatten (n : Nat) (hints : List (List Nat)) :
    (safeChunks n hints).flatten = (keptChunks n hints).flatten ++ remainder n hints := by
  rw [safeChunks_eq]
  split
  · simp [*]
  · simp

theorem safeChunks_flatten_nodup (n : Nat) (hints : List (List Nat)) (h : hints.flatten.Nodup) :
    (safeChunks n hints).flatten.Nodup := by
  rw [safeChunks_flatten]
  refine List.nodup_append.mpr ⟨(keptChunks_flatten n hints ▸ List.filter_sublist).nodup h,
    List.filter_sublist.nodup List.nodup_range', ?_⟩
  rintro a ha _ hb rfl
  exact (mem_remainder.mp hb).2 (mem_keptChunks_flatten.mp ha).1

theorem sizeFor_spec {T : Type} (tr : Bool) (v : List (Option T)) (q : Nat) :
    q ≤ (sizeFor tr v q).length ∧
    ∀ i, i < v.length → (tr = true → i < q) → (sizeFor tr v q)[i]? = v[i]? := by
  unfold sizeFor
  split
  · refine ⟨?_, fun i hi _ => List.getElem?_append_left hi⟩
    rw [List.length_append, List.length_replicate]
    omega
  · split
    · rename_i htr
      refine ⟨?_, fun i _ hq => List.getElem?_take_of_lt (hq htr)⟩
      rw [List.length_take]
      omega
    · exact ⟨by omega, fun _ _ _ => rfl⟩

theorem getElem?_set_sizeFor {T : Type} (tr : Bool) (doc : Nat → T) (v : List (Option T)) {p q : Nat}
    (hp : 0 < p) (hq : 0 < q)
    (h : p = q ∨ v[p - 1]? = some (some (doc p)) ∧ (tr = true → p ≤ q)) :
    ((sizeFor tr v q).set (q - 1) (some (doc q)))[p - 1]? = some (some (doc p)) := by
  obtain ⟨hlen, hkeep⟩ := sizeFor_spec tr v q
  by_cases hpq : p = q
  · subst hpq
    rw [List.getElem?_set_self (by omega)]
  · obtain ⟨hv, hle⟩ := h.resolve_left hpq
    rw [List.getElem?_set_ne (by omega), hkeep _ (List.getElem?_eq_some_iff.mp hv).1 fun htr => ?_, hv]
    have := hle htr
    omega

/-- The second disjunct (the slot held the page before the load) only carries the induction:
    `iterGroups_ok` uses `p ∈ g` alone.  The `tr = true →` clauses are the F-20 condition: a truncating
    resize keeps a slot only if no later page of the group lies below it. -/
theorem loadPages_spec {T : Type} (tr : Bool) (doc : Nat → T) (v : List (Option T)) (g : List Nat)
    (hg : ∀ p ∈ g, 0 < p) (hs : tr = true → g.Pairwise (· ≤ ·)) :
    ∃ v', loadPages tr doc v g = .ok v' ∧ ∀ p, 0 < p →
      (p ∈ g ∨ v[p - 1]? = some (some (doc p)) ∧ (tr = true → ∀ q ∈ g, p ≤ q)) →
      v'[p - 1]? = some (some (doc p)) := by
  induction g generalizing v with
  | nil => exact ⟨v, rfl, fun p _ h => by simpa using h⟩
  | cons q qs ih =>
    have hq : 0 < q := hg q (by simp)
    obtain ⟨v', hv', hall⟩ := ih ((sizeFor tr v q).set (q - 1) (some (doc q)))
      (fun p hp => hg p (by simp [hp])) (fun htr => (List.pairwise_cons.mp (hs htr)).2)
    refine ⟨v', by simp [loadPages, Nat.ne_of_gt hq, hv'], fun p hp h => hall p hp ?_⟩
    by_cases hpq : p ∈ qs
    · exact .inl hpq
    · rcases h with h | ⟨hv, hle⟩
      · obtain rfl := (List.mem_cons.mp h).resolve_right hpq
        exact .inr ⟨getElem?_set_sizeFor tr doc v hp hq (.inl rfl),
          fun htr => (List.pairwise_cons.mp (hs htr)).1⟩
      · exact .inr ⟨getElem?_set_sizeFor tr doc v hp hq (.inr ⟨hv, fun htr => hle htr q (by simp)⟩),
          fun htr r hr => hle htr r (by simp [hr])⟩

theorem yieldPages_ok {T : Type} (doc : Nat → T) (v : List (Option T)) (g : List Nat)
    (h : ∀ p ∈ g, v[p - 1]? = some (some (doc p))) :
    yieldPages v g = (g.map (fun p => (p, doc p)), none) := by
  induction g with
  | nil => rfl
  | cons p ps ih =>
    simp only [yieldPages, h p (by simp), ih fun q hq => h q (by simp [hq]), List.map_cons]

theorem iterGroups_ok {T : Type} (tr : Bool) (doc : Nat → T) (v : List (Option T)) (gs : List (List Nat))
    (hg : ∀ g ∈ gs, g ≠ [] ∧ ∀ p ∈ g, 0 < p) (hs : tr = true → ∀ g ∈ gs, g.Pairwise (· ≤ ·)) :
    iterGroups tr doc v gs = (gs.flatten.map (fun p => (p, doc p)), none) := by
  induction gs generalizing v with
  | nil => rfl
  | cons g gs ih =>
    have ⟨hne, hpos⟩ := hg g (by simp)
    obtain ⟨v', hv', hall⟩ := loadPages_spec tr doc v g hpos fun htr => hs htr g (by simp)
    have hy := yieldPages_ok doc v' g fun p hp => hall p (hpos p hp) (.inl hp)
    have hrest := ih v' (fun g' hg' => hg g' (by simp [hg'])) fun htr g' hg' => hs htr g' (by simp [hg'])
    simp only [iterGroups, hv', hne, if_false, hy, hrest, List.flatten_cons, List.map_append]

theorem map_fst_pages {T : Type} (doc : Nat → T) (l : List Nat) : (l.map (fun p => (p, doc p))).map (·.1) = l := by
  induction l <;> simp_all

end Acb.Pages
