/-
  The summary rows of `make_summary_txs`, simple mode: the table of each affiliate's last
  summarisable delta, the rows emitted from it and their sort, read as the summary of the tracker
  that the summarised deltas lead to, for some order of the affiliates (`summary_of_state`).
-/
import AcbModel.Lemmas.SummaryRange
import AcbModel.Lemmas.SummaryReplay
import AcbModel.Basic.Sort
import AcbModel.Lemmas.Lists
import AcbModel.Lemmas.Isort
namespace Acb

def pairStep (acc : List (Aff × Nat)) (p : Delta × Nat) : List (Aff × Nat) :=
  (p.1.tx.aff, p.2) :: acc.filter (fun q => q.1 != p.1.tx.aff)

/-- what the table holds after the deltas `P` -/
structure PairsInv (acc : List (Aff × Nat)) (P : List Delta) : Prop where
  nodup : (acc.map (·.1)).Nodup
  sound : ∀ a i, (a, i) ∈ acc → ∃ d, P[i]? = some d ∧ lastD P a = some d
  complete : ∀ a d, lastD P a = some d → a ∈ acc.map (·.1)

theorem PairsInv.step {acc : List (Aff × Nat)} {P : List Delta} (h : PairsInv acc P) (d : Delta) :
    PairsInv (pairStep acc (d, P.length)) (P ++ [d]) := by
  unfold pairStep
  refine ⟨List.nodup_cons.mpr ⟨fun hm => ?_, h.nodup.sublist (List.filter_sublist.map _)⟩, fun a i hm => ?_,
    fun a e he => ?_⟩
  · obtain ⟨q, hq, hq1⟩ := List.mem_map.mp hm
    exact bne_iff_ne.mp (List.mem_filter.mp hq).2 hq1
  · rw [lastD_snoc]
    simp only [List.mem_cons, Prod.mk.injEq, List.mem_filter, bne_iff_ne, ne_eq] at hm
    rcases hm with ⟨rfl, rfl⟩ | ⟨hm, hne⟩
    · exact ⟨d, List.getElem?_concat_length, if_pos rfl⟩
    · obtain ⟨e, he1, he2⟩ := h.sound a i hm
      exact ⟨e, getElem?_append_of_eq_some he1 _, by rw [if_neg (Ne.symm hne), he2]⟩
  · rw [lastD_snoc] at he
    by_cases hda : d.tx.aff = a
    · exact List.mem_map.mpr ⟨_, List.mem_cons_self, hda⟩
    · rw [if_neg hda] at he
      obtain ⟨q, hq, hq1⟩ := List.mem_map.mp (h.complete a e he)
      exact List.mem_map.mpr
        ⟨q, List.mem_cons_of_mem _ (List.mem_filter.mpr ⟨hq, bne_iff_ne.mpr (hq1 ▸ Ne.symm hda)⟩), hq1⟩

theorem PairsInv.perm {acc acc' : List (Aff × Nat)} {P : List Delta} (h : PairsInv acc P) (hp : acc'.Perm acc) :
    PairsInv acc' P :=
  ⟨(hp.map _).nodup_iff.mpr h.nodup, fun a i hm => h.sound a i (hp.mem_iff.mp hm),
    fun a d hd => (hp.map _).mem_iff.mpr (h.complete a d hd)⟩

theorem pairs_foldl :
    ∀ (l P : List Delta) (acc : List (Aff × Nat)), PairsInv acc P →
      PairsInv ((l.zipIdx P.length).foldl pairStep acc) (P ++ l) := by
  intro l
  induction l with
  | nil =>
    intro P acc h
    simpa using h
  | cons d l ih =>
    intro P acc h
    have := ih (P ++ [d]) _ (h.step d)
    simpa using this

theorem insertPair_eq : insertPair = insertBy (fun x y => decide (x.1.key ≤ y.1.key)) :=
  ins_eq_insertBy (fun _ => rfl) fun _ _ _ => by simp only [insertPair, decide_eq_true_eq]

theorem lastIdxPerAff_spec (A B : List Delta) {l : Nat} (hl : l + 1 = A.length) :
    PairsInv (lastIdxPerAff (A ++ B) l) A := by
  have h := pairs_foldl A [] [] ⟨by simp, by simp, by simp [lastD_nil]⟩
  refine h.perm ?_
  unfold lastIdxPerAff
  rw [hl, List.take_left, insertPair_eq]
  exact isort_perm _ (List.foldl pairStep [] A.zipIdx)

theorem insertTx_eq : insertTx = insertBy txLe := ins_eq_insertBy (fun _ => rfl) fun _ _ _ => rfl

/-- the sort of `make_summary_txs` (number the rows, sort, forget the numbers) permutes rows whose
    index is 0 -/
theorem sortedSummary_perm (R : List Tx) (h0 : ∀ t ∈ R, t.idx = 0) :
    (((R.zipIdx.map (fun (t, i) => { t with idx := i })).foldr insertTx []).map
      (fun t => { t with idx := 0 })).Perm R := by
  rw [insertTx_eq]
  refine ((isort_perm txLe _).map _).trans ?_
  rw [List.map_map]
  have e : ((fun (t : Tx) => { t with idx := 0 }) ∘ fun (x : Tx × Nat) => { x.1 with idx := x.2 }) =
      (fun (t : Tx) => { t with idx := 0 }) ∘ Prod.fst := rfl
  rw [e, ← List.map_map, List.zipIdx_map_fst, List.map_congr_left (g := id) fun t ht => ?_, List.map_id]
  have := h0 t ht
  cases t
  simp only at this
  subst this
  rfl

/-- `As'`: the affiliates of the rows of `S`, then those of `others` that contribute nothing. -/
theorem flatMap_reorder (f : Aff → List Tx) (hf : ∀ a, f a = [] ∨ ∃ z, f a = [z] ∧ z.aff = a)
    (As : List Aff) (hn : As.Nodup) (S : List Tx) (hp : S.Perm (As.flatMap f))
    (others : List Aff) (ho : ∀ a ∈ others, a ∉ As → f a = []) :
    ∃ As' : List Aff, As'.Nodup ∧ (∀ a ∈ others, a ∈ As') ∧ As'.flatMap f = S := by
  have hrow : ∀ y ∈ S, f y.aff = [y] := by
    intro y hy
    obtain ⟨a, -, hya⟩ := List.mem_flatMap.mp (hp.mem_iff.mp hy)
    rcases hf a with h0 | ⟨z, hz, rfl⟩
    · rw [h0] at hya
      cases hya
    · rw [hz] at hya
      cases List.mem_singleton.mp hya
      exact hz
  have haffs : ∀ L : List Aff, (L.flatMap f).map (·.aff) = L.filter (fun a => !(f a).isEmpty) := by
    intro L
    induction L with
    | nil => rfl
    | cons a L ih =>
      rw [List.flatMap_cons, List.map_append, ih, List.filter_cons]
      rcases hf a with h0 | ⟨z, hz, hza⟩
      · simp [h0]
      · simp [hz, hza]
  have hSaff : (S.map (·.aff)).Perm (As.filter (fun a => !(f a).isEmpty)) := haffs As ▸ hp.map _
  refine ⟨S.map (·.aff) ++ (others.filter (fun a => (f a).isEmpty)).eraseDups, ?_, fun a ha => ?_, ?_⟩
  · refine List.nodup_append.mpr ⟨hSaff.nodup_iff.mpr (hn.sublist List.filter_sublist), nodup_eraseDups _, ?_⟩
    rintro x hx y hy rfl
    have := (List.mem_filter.mp (hSaff.mem_iff.mp hx)).2
    simp [(List.mem_filter.mp (List.mem_eraseDups.mp hy)).2] at this
  · rw [List.mem_append, hSaff.mem_iff, List.mem_eraseDups, List.mem_filter, List.mem_filter]
    cases he : (f a).isEmpty
    · exact .inl ⟨Classical.byContradiction fun hna => by simp [ho a ha hna] at he, rfl⟩
    · exact .inr ⟨ha, rfl⟩
  · have h2 : ((others.filter (fun a => (f a).isEmpty)).eraseDups).flatMap f = [] :=
      List.flatMap_eq_nil_iff.mpr fun a ha => by simpa using (List.mem_filter.mp (List.mem_eraseDups.mp ha)).2
    rw [List.flatMap_append, h2, List.append_nil]
    clear hSaff hp
    induction S with
    | nil => rfl
    | cons y S ih =>
      simp only [List.map_cons, List.flatMap_cons]
      rw [hrow y (by simp), ih (fun z hz => hrow z (by simp [hz]))]
      rfl

/-- the summary part of `make_summary_txs` (simple mode), `ls` the last summarisable delta -/
def summaryPart (ds : List Delta) : Option Nat → List Tx
  | none => []
  | some ls =>
    ((((lastIdxPerAff ds ls).flatMap (fun (p : Aff × Nat) =>
        match ds[p.2]? with | some d => simpleSummary p.1 d | none => [])).zipIdx.map
          (fun (t, i) => { t with idx := i })).foldr insertTx []).map (fun t => { t with idx := 0 })

theorem makeSummaryTxs_eq (yearOf jan1 : Int → Int) (latest : Int) {ds : List Delta} {r : SummaryRange}
    (hr : summaryRange latest ds = some r) :
    makeSummaryTxs yearOf jan1 latest false ds =
      summaryPart ds r.lastSummarizable ++
        ((ds.take (r.lastInRange + 1)).drop (cutOf r.lastSummarizable)).map carryTx := by
  unfold makeSummaryTxs
  simp only [hr, Bool.false_eq_true, if_false]
  cases r.lastSummarizable <;> rfl

theorem summary_of_state {A1 : List Delta} (rest : List Delta) {ls : Option Nat} (hls : cutOf ls = A1.length)
    {tP : Tracker} (hTP : TrackInv tP A1) (others : List Aff) {F : Int} (hF : ∀ d ∈ A1, d.tx.settle < F) :
    ∃ (day : Aff → Int) (As : List Aff), As.Nodup ∧ (∀ a ∈ others, a ∈ As) ∧
      summaryOfTracker tP day As = summaryPart (A1 ++ rest) ls ∧ ∀ a, day a < F := by
  -- a summary row is dated as the affiliate's last delta
  let day : Aff → Int := fun a => ((lastD A1 a).map (·.tx.settle)).getD (F - 1)
  have hday : ∀ a, day a < F := fun a => by
    simp only [day]
    cases hl : lastD A1 a with
    | none => exact Int.sub_one_lt_of_le (Int.le_refl F)
    | some e => exact hF e (lastD_some hl).2
  let g : Aff → List Tx := fun a => summaryRowsOf (day a) a (tP.bal a) (tP.acbOf a)
  -- an affiliate without a delta has no status and contributes nothing
  have hg0 : ∀ a, lastD A1 a = none → g a = [] := fun a hnone => by
    simp only [g, bal_of_none (hTP.none hnone), acbOf_of_none (hTP.none hnone), summaryRowsOf_default]
  cases ls with
  | none =>
    cases List.eq_nil_of_length_eq_zero hls.symm
    exact ⟨day, others.eraseDups, nodup_eraseDups others, fun a ha => List.mem_eraseDups.mpr ha,
      List.flatMap_eq_nil_iff.mpr fun a _ => hg0 a rfl, hday⟩
  | some l =>
    have hK := lastIdxPerAff_spec A1 rest hls
    simp only [summaryPart]
    generalize lastIdxPerAff (A1 ++ rest) l = K at hK
    have hrows : K.flatMap (fun (p : Aff × Nat) =>
          match (A1 ++ rest)[p.2]? with | some d => simpleSummary p.1 d | none => []) =
        (K.map (·.1)).flatMap g := by
      rw [List.flatMap_map, List.flatMap_def, List.flatMap_def]
      refine congrArg _ (List.map_congr_left fun p hp => ?_)
      obtain ⟨a, i⟩ := p
      obtain ⟨d, hdi, hdl⟩ := hK.sound a i hp
      -- the tracker's status of `a` is the `post` of its last delta
      simp only [getElem?_append_of_eq_some hdi rest, simpleSummary_shape, g, day, hdl, Option.map_some,
        Option.getD_some, hTP.bal hdl, hTP.acbOf hdl]
    rw [hrows]
    have hperm := sortedSummary_perm ((K.map (·.1)).flatMap g) fun t ht => by
      obtain ⟨a, _, hta⟩ := List.mem_flatMap.mp ht
      obtain ⟨_, rfl⟩ := summaryRowsOf_mem hta
      rfl
    obtain ⟨As, hnA, hmA, hfA⟩ := flatMap_reorder g
      (fun a => (summaryRowsOf_cases _ a _ _).imp_right fun ⟨act, h⟩ => ⟨_, h, rfl⟩) (K.map (·.1)) hK.nodup _
      hperm others fun a _ ha => hg0 a (by
        cases hl : lastD A1 a with
        | none => rfl
        | some d => exact absurd (hK.complete a d hl) ha)
    exact ⟨day, As, hnA, hmA, hfA, hday⟩

end Acb
