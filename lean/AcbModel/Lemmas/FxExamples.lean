/-
  Concrete data for the non-vacuity examples of C12-C14, and the loader as it was before the repair of
  F-13 (`getEffectiveOld`), of which `C13_unrepaired_loader_was_stale` speaks.
-/
import AcbModel.Lemmas.FxRun
import AcbModel.Lemmas.FxCivil
import AcbModel.Fx.CacheFile
namespace Acb.Fx

/-- New Year 2020 (JDN 2458850 = 2020-01-01): rates on Dec 30, Jan 2, Jan 3, Jan 6; today Jan 21. -/
def exEnv : Env :=
  { cal := civil, today := 2458870, force := false,
    remote := fun y =>
      if y = 2020 then some [⟨2458851, 13/10⟩, ⟨2458852, 131/100⟩, ⟨2458855, 7/5⟩]
      else if y = 2019 then some [⟨2458848, 129/100⟩] else none }

theorem remoteWF_two {e : Env} {y1 y2 : Int} {l1 l2 : List DailyRate}
    (hr : e.remote = fun y => if y = y1 then some l1 else if y = y2 then some l2 else none)
    (h1 : Sorted l1 ∧ ∀ x ∈ l1, e.cal.yearOf x.date = y1 ∧ x.rate ≠ 0 ∧ x.date ≤ e.today)
    (h2 : Sorted l2 ∧ ∀ x ∈ l2, e.cal.yearOf x.date = y2 ∧ x.rate ≠ 0 ∧ x.date ≤ e.today) :
    RemoteWF e := by
  intro y l h
  simp only [hr] at h
  split at h
  · cases h; subst y; exact h1
  · split at h
    · cases h; subst y; exact h2
    · cases h

theorem exEnv_wf : RemoteWF exEnv :=
  remoteWF_two rfl (by unfold Sorted; decide +kernel) (by unfold Sorted; decide +kernel)

/-- The same data seen on Jan 7, 2020 (JDN 2458856) … -/
def exEnvA : Env := { exEnv with today := 2458856 }

/-- … and on Jan 21, when a rate for Jan 8 (JDN 2458857) has been published as well. -/
def exEnvB : Env :=
  { cal := civil, today := 2458870, force := false,
    remote := fun y =>
      if y = 2020 then some [⟨2458851, 13/10⟩, ⟨2458852, 131/100⟩, ⟨2458855, 7/5⟩, ⟨2458857, 141/100⟩]
      else if y = 2019 then some [⟨2458848, 129/100⟩] else none }

theorem exEnvA_wf : RemoteWF exEnvA :=
  remoteWF_two rfl (by unfold Sorted; decide +kernel) (by unfold Sorted; decide +kernel)

theorem exEnvB_wf : RemoteWF exEnvB :=
  remoteWF_two rfl (by unfold Sorted; decide +kernel) (by unfold Sorted; decide +kernel)

theorem exEnvAB_consistent : Consistent exEnvA exEnvB := by
  -- the later data differ by the rate of Jan 8 only
  have key : ∀ d, pubOf civil exEnvB.remote d = pubOf civil exEnvA.remote d ∨
      d = 2458857 ∧ pubOf civil exEnvA.remote d = none := by
    intro d
    unfold pubOf
    simp only [exEnvA, exEnvB, exEnv]
    generalize civil.yearOf d = y
    by_cases h1 : y = 2020
    · by_cases h3 : (2458857 : Int) = d
      · subst h3; simp [h1, lookupLast]
      · simp [h1, lookupLast, h3]
    · by_cases h2 : y = 2019 <;> simp [h1, h2]
  refine ⟨rfl, by decide +kernel, fun d hd => ?_, fun d r h => ?_, fun y h => ?_⟩
  · exact (key d).resolve_right fun h => by have : d < 2458856 := hd; omega
  · rcases key d with h' | ⟨_, h'⟩
    · exact h'.trans h
    · cases h'.symm.trans h
  · simp only [exEnvA, exEnvB, exEnv] at h ⊢
    split <;> simp_all

/-- Two runs: on Jan 7 a look-up of Jan 3; on Jan 21 a look-up of Jan 3 (covered by the cache),
    then of Jan 8 (newer than the cache) and of Jan 9. -/
def exHistory : List Run :=
  [⟨exEnvA, [2458852]⟩, ⟨exEnvB, [2458852, 2458857, 2458858]⟩]

theorem exHistory_good : GoodHistory none exHistory :=
  ⟨civil_ok, exEnvA_wf, trivial, civil_ok, exEnvB_wf, exEnvAB_consistent, trivial⟩

/-! The loader as it was before the repair of F-13: a year already in `year_rates` is never
    validated again. -/

def ensureLoadedOld (e : Env) (s : St) (d : Int) : Except FxErr (List DailyRate) × St :=
  let y := e.cal.yearOf d
  match s.loaded y with
  | some rows => (.ok rows, s)
  | none =>
    match fetch e s d with
    | (.ok rows, s') => (.ok rows, { s' with loaded := upd s'.loaded y (some rows) })
    | (.error er, s') => (.error er, s')

def getExactOld (e : Env) (s : St) (d : Int) : Except FxErr (Option DailyRate) × St :=
  match ensureLoadedOld e s d with
  | (.error er, s') => (.error er, s')
  | (.ok rows, s') =>
    match lookupLast rows d with
    | some r => if r = 0 then (.ok none, s') else (.ok (some ⟨d, r⟩), s')
    | none => if e.today ≤ d then (.error .noRateYet, s') else (.ok none, s')

def lookBackOld (e : Env) : Nat → St → Int → Except FxErr DailyRate × St
  | 0, s, _ => (.error .notFound, s)
  | n + 1, s, d =>
    match getExactOld e s (d - 1) with
    | (.error er, s') => (.error er, s')
    | (.ok (some r), s') => (.ok r, s')
    | (.ok none, s') => lookBackOld e n s' (d - 1)

def getEffectiveOld (e : Env) (s : St) (d : Int) : Except FxErr DailyRate × St :=
  match getExactOld e s d with
  | (.error er, s') => (.error er, s')
  | (.ok (some r), s') => (.ok r, s')
  | (.ok none, s') => lookBackOld e 7 s' d

def exRateText (r : Rat) : List Char :=
  if r = 13/10 then "1.3".toList else if r = 131/100 then "1.31".toList
  else if r = 7/5 then "1.4".toList else if r = 141/100 then "1.41".toList else "0".toList

/-- The year 2020 as the run of Jan 21 downloads and fills it (20 rows), with rate texts. -/
def exRows : List TextRow :=
  (fillUnknown civil exEnvB.today
      [⟨2458851, 13/10⟩, ⟨2458852, 131/100⟩, ⟨2458855, 7/5⟩, ⟨2458857, 141/100⟩] 2020).map
    (fun (r : DailyRate) => TextRow.mk r.date (exRateText r.rate))

end Acb.Fx
