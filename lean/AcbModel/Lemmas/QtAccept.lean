import AcbModel.Lemmas.QtConvert
import AcbModel.Lemmas.QtPipeline
namespace Acb.Qt

theorem aliasOf_ne_empty {sym al aka : String} (h : aliasOf sym = some (al, aka)) : al ≠ "" := by
  have table : ∀ p ∈ Gen.qtAliasFrom.zip (Gen.qtAliasTo.zip Gen.qtAliasAka), p.2.1 ≠ "" := by decide
  obtain ⟨p, hp, hpa⟩ := Option.map_eq_some_iff.mp h
  have := table p (List.mem_of_find?_eq_some hp)
  rwa [hpa] at this

theorem TradeFields.security_ne {rd : Reader} {n : Nat} {t : BTx} (h : TradeFields rd n t) :
    t.security ≠ "" := by
  obtain ⟨sym, _, hne, hsec⟩ := h.symbol
  rw [hsec]
  split
  · rename_i al aka hal
    exact aliasOf_ne_empty hal
  · exact hne

/-- what every converted row satisfies, whatever the export -/
structure Shape (t : BTx) : Prop where
  security_ne : t.security ≠ ""
  shares_nonneg : 0 ≤ t.shares
  commission_nonneg : 0 ≤ t.commission
  rate : ∀ r, t.rate = some r → 0 < r ∧ t.currency = "USD"

theorem FxRow.shape {t : BTx} (h : FxRow t) : Shape t where
  security_ne := by
    rw [h.security]
    decide
  shares_nonneg := h.shares_nonneg
  commission_nonneg := h.commission ▸ Rat.le_refl
  rate := fun _ hr => ⟨h.rate_pos hr, h.currency⟩

theorem TradeFields.shape {rd : Reader} {n : Nat} {t : BTx} (h : TradeFields rd n t) : Shape t where
  security_ne := h.security_ne
  shares_nonneg := by
    obtain ⟨q, _, hq⟩ := h.quantity
    exact hq ▸ rabs_nonneg q
  commission_nonneg := by
    obtain ⟨c, _, hc⟩ := h.commission
    exact hc ▸ rabs_nonneg c
  rate := fun r hr => by
    rw [h.noRate] at hr
    cases hr

theorem convertReaders_shape {rds : List Reader} {t : BTx} (h : t ∈ (convertReaders rds).txs) : Shape t := by
  simp only [Conv.txs, List.mem_append] at h
  rcases h with h | h
  · rw [convertReaders_trades] at h
    obtain ⟨k, rd, _, hp⟩ := mem_tradesFrom.mp h
    exact (parseRow_trade hp).shape
  · exact (convertReaders_fx_mem h).1.shape

theorem rated_shape {o : Opts} (hr : ∀ r, o.usdRate = some r → 0 < r) {t : BTx} (h : Shape t) :
    Shape (rated o t) := by
  rcases rated_cases o t with he | ⟨r, hro, hc, _, he⟩ <;> rw [he]
  · exact h
  · exact { h with rate := fun x hx => ⟨Option.some.inj hx ▸ hr r hro, hc⟩ }

theorem accepts_of_shape {t : BTx} (h : Shape t) (hsh : t.shares ≠ 0) (hp : 0 ≤ t.price)
    (hc : t.currency = "CAD" ∨ t.currency = "USD") : AcbAccepts t := by
  refine ⟨h.security_ne, Rat.lt_of_le_of_ne h.shares_nonneg (Ne.symm hsh), hp, h.commission_nonneg, ?_⟩
  split
  · rename_i r hr
    obtain ⟨hpos, hcur⟩ := h.rate r hr
    refine ⟨hpos, fun hcad => ?_⟩
    exact absurd (hcad.symm.trans hcur) cad_ne_usd
  · exact hc

end Acb.Qt
