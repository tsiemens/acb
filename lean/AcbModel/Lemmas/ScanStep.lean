/-
  The two window scans of `get_superficial_loss_info` as "run a step function (`fwdStep`, `bwdStep`)
  over the rows up to the `break`".
-/
import AcbModel.Ledger.Sfl
import AcbModel.Lemmas.Rel
import AcbModel.Lemmas.Lists
namespace Acb

/-- settlement dates non-decreasing -/
def SettleAsc (l : List Tx) : Prop := l.Pairwise (fun a b => a.settle ≤ b.settle)
theorem SettleAsc.left {a b : List Tx} (h : SettleAsc (a ++ b)) : SettleAsc a := (List.pairwise_append.mp h).1

theorem SettleAsc.right {a b : List Tx} (h : SettleAsc (a ++ b)) : SettleAsc b := (List.pairwise_append.mp h).2.1

theorem SettleAsc.tail {x : Tx} {l : List Tx} (h : SettleAsc (x :: l)) : SettleAsc l := (List.pairwise_cons.mp h).2

/-- rows in reverse order (most recent first) -/
def SettleDesc (l : List Tx) : Prop := l.Pairwise (fun a b => b.settle ≤ a.settle)

/-- The body of the first `for` loop of `get_superficial_loss_info` (the rows after the sale). -/
def fwdStep (t : Tracker) (s : Scan) (x : Tx) : Except Failure Scan :=
  match x.act with
  | .buy sh _ _ _ _ =>
    .ok { s with allEop := s.allEop + sh * s.adj x.aff,
                 active := upd s.active x.aff (some ((s.active x.aff).getD (t.bal x.aff) + sh * s.adj x.aff)),
                 acquired := s.acquired + sh * s.adj x.aff, buyers := insertAff s.buyers x.aff }
  | .sell sh _ _ _ _ _ =>
    if s.allEop - sh * s.adj x.aff < 0 then .error (.err .lookTotalNeg)
    else if (s.active x.aff).getD (t.bal x.aff) - sh * s.adj x.aff < 0 then .error (.err .lookAffNeg)
    else .ok { s with allEop := s.allEop - sh * s.adj x.aff,
                      active := upd s.active x.aff (some ((s.active x.aff).getD (t.bal x.aff) - sh * s.adj x.aff)) }
  | .split post pre _ => .ok { s with adj := upd s.adj x.aff (s.adj x.aff / splitFactor post pre) }
  | _ => .ok s

theorem scanFwd_cons (t : Tracker) (lastDay : Int) (s : Scan) (x : Tx) (rest : List Tx) :
    scanFwd t lastDay s (x :: rest) =
      if x.settle > lastDay then .ok s
      else match fwdStep t s x with
        | .error f => .error f
        | .ok s' => scanFwd t lastDay s' rest := by
  rw [scanFwd]
  by_cases hgt : x.settle > lastDay
  · rw [if_pos hgt, if_pos hgt]
  · rw [if_neg hgt, if_neg hgt]
    unfold fwdStep
    cases x.act with
    | sell sh px comm rate crate spec =>
      simp only
      by_cases h1 : s.allEop - sh * s.adj x.aff < 0
      · rw [if_pos h1, if_pos h1]
      · rw [if_neg h1, if_neg h1]
        by_cases h2 : (s.active x.aff).getD (t.bal x.aff) - sh * s.adj x.aff < 0
        · rw [if_pos h2, if_pos h2]
        · rw [if_neg h2, if_neg h2]
    | _ => rfl

/-- The body of its second `for` loop (the rows before the sale, most recent first). -/
def bwdStep (t : Tracker) (s : Scan) (x : Tx) : Scan :=
  match x.act with
  | .buy sh _ _ _ _ =>
    { s with acquired := s.acquired + sh * s.adj x.aff, buyers := insertAff s.buyers x.aff,
             active := if (s.active x.aff).isNone then upd s.active x.aff (some (t.bal x.aff)) else s.active }
  | .split post pre _ => { s with adj := upd s.adj x.aff (s.adj x.aff * splitFactor post pre) }
  | _ => s

theorem scanBwd_cons (t : Tracker) (firstDay : Int) (s : Scan) (x : Tx) (rest : List Tx) :
    scanBwd t firstDay s (x :: rest) =
      if x.settle < firstDay then s else scanBwd t firstDay (bwdStep t s x) rest := by
  rw [scanBwd]
  by_cases h : x.settle < firstDay
  · rw [if_pos h, if_pos h]
  · rw [if_neg h, if_neg h]
    unfold bwdStep
    cases x.act <;> rfl

theorem mem_insertAff {l : List Aff} {a x : Aff} : x ∈ insertAff l a ↔ x ∈ l ∨ x = a := by
  unfold insertAff
  split
  · exact ⟨.inl, fun h => h.elim id (· ▸ ‹_›)⟩
  · simp

theorem insertAff_ne_nil (l : List Aff) (a : Aff) : insertAff l a ≠ [] :=
  fun h => List.not_mem_nil (h ▸ mem_insertAff.mpr (.inr rfl))

section steps
variable {t : Tracker} {s s' : Scan} {x : Tx} {sh px comm rate : Rat} {crate : Option Rat}

theorem fwdStep_buy (hact : x.act = .buy sh px comm rate crate) :
    fwdStep t s x = .ok { s with
      allEop := s.allEop + sh * s.adj x.aff,
      active := upd s.active x.aff (some ((s.active x.aff).getD (t.bal x.aff) + sh * s.adj x.aff)),
      acquired := s.acquired + sh * s.adj x.aff, buyers := insertAff s.buyers x.aff } := by
  simp only [fwdStep, hact]

theorem fwdStep_split {post pre : Rat} {io : Bool} (hact : x.act = .split post pre io) :
    fwdStep t s x = .ok { s with adj := upd s.adj x.aff (s.adj x.aff / splitFactor post pre) } := by
  simp only [fwdStep, hact]

theorem fwdStep_of_other (hb : x.act.isBuy = false) (hs : x.act.isSell = false)
    (hp : x.act.isSplit = false) : fwdStep t s x = .ok s := by
  unfold fwdStep
  cases hact : x.act <;> simp_all [Action.isBuy, Action.isSell, Action.isSplit]

theorem fwdStep_sfla {ps : Rat} (h : x.act = .sfla sh ps) : fwdStep t s x = .ok s :=
  fwdStep_of_other (h ▸ rfl) (h ▸ rfl) (h ▸ rfl)

theorem fwdStep_sell {spec : Option (Rat × Bool)} (hact : x.act = .sell sh px comm rate crate spec)
    (h : fwdStep t s x = .ok s') :
    ¬ s.allEop - sh * s.adj x.aff < 0 ∧ ¬ (s.active x.aff).getD (t.bal x.aff) - sh * s.adj x.aff < 0 ∧
    s' = { s with allEop := s.allEop - sh * s.adj x.aff,
                  active := upd s.active x.aff (some ((s.active x.aff).getD (t.bal x.aff) - sh * s.adj x.aff)) } := by
  simp only [fwdStep, hact] at h
  by_cases h1 : s.allEop - sh * s.adj x.aff < 0
  · rw [if_pos h1] at h; cases h
  by_cases h2 : (s.active x.aff).getD (t.bal x.aff) - sh * s.adj x.aff < 0
  · rw [if_neg h1, if_pos h2] at h; cases h
  rw [if_neg h1, if_neg h2] at h
  cases h
  exact ⟨h1, h2, rfl⟩

/-- Only a sale stops the forward scan, with one of its two `Err`s. -/
theorem fwdStep_err {f : Failure} (h : fwdStep t s x = .error f) :
    f = .err .lookTotalNeg ∨ f = .err .lookAffNeg := by
  unfold fwdStep at h
  cases hact : x.act with
  | sell sh px comm rate crate spec =>
    simp only [hact] at h
    split at h
    · cases h; exact .inl rfl
    · split at h <;> cases h
      exact .inr rfl
  | _ => simp only [hact] at h; cases h

theorem fwdStep_buyers (h : fwdStep t s x = .ok s') :
    s'.buyers = if x.act.isBuy = true then insertAff s.buyers x.aff else s.buyers := by
  cases hact : x.act with
  | buy sh px comm rate crate => rw [fwdStep_buy hact] at h; cases h; rfl
  | sell sh px comm rate crate spec => rw [(fwdStep_sell hact h).2.2]; rfl
  | split post pre io => rw [fwdStep_split hact] at h; cases h; rfl
  | _ => rw [fwdStep_of_other (hact ▸ rfl) (hact ▸ rfl) (hact ▸ rfl)] at h; cases h; rfl

theorem bwdStep_buy (hact : x.act = .buy sh px comm rate crate) :
    bwdStep t s x = { s with
      acquired := s.acquired + sh * s.adj x.aff, buyers := insertAff s.buyers x.aff,
      active := if (s.active x.aff).isNone then upd s.active x.aff (some (t.bal x.aff)) else s.active } := by
  simp only [bwdStep, hact]

theorem bwdStep_split {post pre : Rat} {io : Bool} (hact : x.act = .split post pre io) :
    bwdStep t s x = { s with adj := upd s.adj x.aff (s.adj x.aff * splitFactor post pre) } := by
  simp only [bwdStep, hact]

theorem bwdStep_of_other (hb : x.act.isBuy = false) (hs : x.act.isSplit = false) : bwdStep t s x = s := by
  unfold bwdStep
  cases hact : x.act <;> simp_all [Action.isBuy, Action.isSplit]

theorem bwdStep_sfla {ps : Rat} (h : x.act = .sfla sh ps) : bwdStep t s x = s :=
  bwdStep_of_other (h ▸ rfl) (h ▸ rfl)

end steps

theorem bwdStep_buyers (t : Tracker) (s : Scan) (x : Tx) :
    (bwdStep t s x).buyers = if x.act.isBuy = true then insertAff s.buyers x.aff else s.buyers := by
  unfold bwdStep
  cases x.act <;> rfl

/-- `I seen s`: `s` is a possible state after the rows `seen`.  It is enough to look at one row (of
    the list, inside the window). -/
theorem scanFwd_ind {t : Tracker} {lastDay : Int} {P : Tx → Prop} {I : List Tx → Scan → Prop}
    (step : ∀ {seen s x s'}, I seen s → P x → x.settle ≤ lastDay → fwdStep t s x = .ok s' → I (seen ++ [x]) s') :
    ∀ {l : List Tx} (seen : List Tx) {s s' : Scan}, (∀ x ∈ l, P x) → I seen s → scanFwd t lastDay s l = .ok s' →
      I (seen ++ l.takeWhile (fun x => decide (x.settle ≤ lastDay))) s' := by
  intro l
  induction l with
  | nil => intro seen s s' _ hi h; simp only [scanFwd, Except.ok.injEq] at h; subst h; simpa using hi
  | cons x rest ih =>
    intro seen s s' hP hi h
    rw [scanFwd_cons] at h
    split at h
    · rename_i hgt
      simp only [Except.ok.injEq] at h; subst h
      rw [List.takeWhile_cons_of_neg (by simpa using hgt)]
      simpa using hi
    · rename_i hle
      have hle' : x.settle ≤ lastDay := by omega
      rw [List.takeWhile_cons_of_pos (by simpa using hle')]
      split at h
      · cases h
      · rename_i s1 hs1
        have := ih (seen ++ [x]) (fun y hy => hP y (by simp [hy])) (step hi (hP x (by simp)) hle' hs1) h
        simpa using this

theorem scanBwd_ind {t : Tracker} {firstDay : Int} {P : Tx → Prop} {I : List Tx → Scan → Prop}
    (step : ∀ {seen s x}, I seen s → P x → firstDay ≤ x.settle → I (seen ++ [x]) (bwdStep t s x)) :
    ∀ (l seen : List Tx) (s : Scan), (∀ x ∈ l, P x) → I seen s →
      I (seen ++ l.takeWhile (fun x => decide (firstDay ≤ x.settle))) (scanBwd t firstDay s l) := by
  intro l
  induction l with
  | nil => intro seen s _ hi; simpa [scanBwd] using hi
  | cons x rest ih =>
    intro seen s hP hi
    rw [scanBwd_cons]
    split
    · rename_i hlt
      rw [List.takeWhile_cons_of_neg (by simpa using hlt)]
      simpa using hi
    · rename_i hge
      have hge' : firstDay ≤ x.settle := by omega
      rw [List.takeWhile_cons_of_pos (by simpa using hge')]
      have := ih (seen ++ [x]) (bwdStep t s x) (fun y hy => hP y (by simp [hy]))
        (step hi (hP x (by simp)) hge')
      simpa using this

theorem scanFwd_lockstep {t t' : Tracker} {R : Scan → Scan → Prop} {X : Tx → Tx → Prop} (lastDay : Int)
    (hset : ∀ {x x'}, X x x' → x'.settle = x.settle)
    (step : ∀ {s s' x x'}, R s s' → X x x' → ExceptRel R (fwdStep t s x) (fwdStep t' s' x')) :
    ∀ {w w'}, Forall2 X w w' → ∀ {s s'}, R s s' →
      ExceptRel R (scanFwd t lastDay s w) (scanFwd t' lastDay s' w') := by
  intro w w' hw
  induction hw with
  | nil => intro s s' h; exact h
  | cons hx _ ih =>
    intro s s' h
    rw [scanFwd_cons, scanFwd_cons, hset hx]
    split
    · exact h
    · exact (step h hx).elim (fun _ => rfl) fun _ _ h3 => ih h3

/-- Two backward scans in lock step: over rows related one to one, from related states, each then
    going on into rows of its own (`l`, `l'`). -/
theorem scanBwd_lockstep {t t' : Tracker} {R Q : Scan → Scan → Prop} {X : Tx → Tx → Prop} (firstDay : Int)
    (hset : ∀ {x x'}, X x x' → x'.settle = x.settle)
    (step : ∀ {s s' x x'}, R s s' → X x x' → R (bwdStep t s x) (bwdStep t' s' x'))
    (stop : ∀ {s s'}, R s s' → Q s s') {l l' : List Tx}
    (tail : ∀ {s s'}, R s s' → Q (scanBwd t firstDay s l) (scanBwd t' firstDay s' l')) :
    ∀ {w w'}, Forall2 X w w' → ∀ {s s'}, R s s' →
      Q (scanBwd t firstDay s (w ++ l)) (scanBwd t' firstDay s' (w' ++ l')) := by
  intro w w' hw
  induction hw with
  | nil => intro s s' h; exact tail h
  | cons hx _ ih =>
    intro s s' h
    rw [List.cons_append, List.cons_append, scanBwd_cons, scanBwd_cons, hset hx]
    split
    · exact stop h
    · exact ih (step h hx)

/-- The scans read the tracker only through the balances. -/
theorem scanFwd_bal {t t' : Tracker} (hb : ∀ a, t'.bal a = t.bal a) (lastDay : Int) :
    ∀ (future : List Tx) (s : Scan), scanFwd t' lastDay s future = scanFwd t lastDay s future := by
  have hstep : ∀ s x, fwdStep t' s x = fwdStep t s x := fun s x => by unfold fwdStep; simp only [hb]
  intro future
  induction future with
  | nil => intro s; rfl
  | cons x rest ih => intro s; simp only [scanFwd_cons, hstep, ih]

theorem scanBwd_bal {t t' : Tracker} (hb : ∀ a, t'.bal a = t.bal a) (firstDay : Int) :
    ∀ (past : List Tx) (s : Scan), scanBwd t' firstDay s past = scanBwd t firstDay s past := by
  have hstep : ∀ s x, bwdStep t' s x = bwdStep t s x := fun s x => by unfold bwdStep; simp only [hb]
  intro past
  induction past with
  | nil => intro s; rfl
  | cons x rest ih => intro s; simp only [scanBwd_cons, hstep, ih]

theorem scanFwd_stop (t : Tracker) {lastDay : Int} (s : Scan) {l : List Tx} (h : ∀ x ∈ l, lastDay < x.settle) :
    scanFwd t lastDay s l = .ok s := by
  cases l with
  | nil => rfl
  | cons x xs => rw [scanFwd_cons, if_pos (h x (by simp))]

theorem scanBwd_stop (t : Tracker) {firstDay : Int} (s : Scan) {l : List Tx} (h : ∀ x ∈ l, x.settle < firstDay) :
    scanBwd t firstDay s l = s := by
  cases l with
  | nil => rfl
  | cons x xs => rw [scanBwd_cons, if_pos (h x (by simp))]

/-- the `break` cuts the list: only the rows up to it are looked at -/
theorem scanFwd_takeWhile (t : Tracker) (lastDay : Int) : ∀ (l : List Tx) (s : Scan),
    scanFwd t lastDay s l = scanFwd t lastDay s (l.takeWhile (fun x => decide (x.settle ≤ lastDay))) := by
  intro l
  induction l with
  | nil => intro s; rfl
  | cons x rest ih =>
    intro s
    by_cases h : x.settle ≤ lastDay
    · rw [List.takeWhile_cons_of_pos (by simpa using h), scanFwd_cons, scanFwd_cons]
      simp only [show ¬ x.settle > lastDay by omega, if_false]
      split
      · rfl
      · exact ih _
    · rw [List.takeWhile_cons_of_neg (by simpa using h), scanFwd_cons, if_pos (by omega)]
      rfl

theorem scanBwd_takeWhile (t : Tracker) (firstDay : Int) : ∀ (l : List Tx) (s : Scan),
    scanBwd t firstDay s l = scanBwd t firstDay s (l.takeWhile (fun x => decide (firstDay ≤ x.settle))) := by
  intro l
  induction l with
  | nil => intro s; rfl
  | cons x rest ih =>
    intro s
    by_cases h : firstDay ≤ x.settle
    · rw [List.takeWhile_cons_of_pos (by simpa using h), scanBwd_cons, scanBwd_cons]
      simp only [show ¬ x.settle < firstDay by omega, if_false]
      exact ih _
    · rw [List.takeWhile_cons_of_neg (by simpa using h), scanBwd_cons, if_pos (by omega)]
      rfl

def sliOf (s1 s2 : Scan) : Option SliInfo :=
  if 0 < s1.allEop ∧ 0 < s2.acquired then
    some { allEop := s1.allEop, acquired := s2.acquired, buyers := s2.buyers, active := s2.active }
  else none

theorem sflInfo_eq (t : Tracker) (seller : Aff) (settle : Int) (sold : Rat) (past future : List Tx) :
    sflInfo t seller settle sold past future =
      if t.latestPostAll - sold < 0 then .error (.err .lookAllNeg)
      else if t.bal seller - sold < 0 then .error (.err .lookSellerNeg)
      else (scanFwd t (settle + Gen.sflWindowAfterDays) (initScan t seller sold) future).map fun s1 =>
        sliOf s1 (scanBwd t (settle - Gen.sflWindowBeforeDays) { s1 with adj := fun _ => 1 } past) := by
  unfold sflInfo sliOf
  by_cases hA : t.latestPostAll - sold < 0
  · simp only [hA, if_true]
  by_cases hB : t.bal seller - sold < 0
  · simp only [hA, hB, if_true, if_false]
  simp only [hA, hB, if_false]
  cases scanFwd t (settle + Gen.sflWindowAfterDays) (initScan t seller sold) future with
  | error f => rfl
  | ok s1 =>
    simp only [Except.map]
    by_cases h1 : 0 < s1.allEop
    · simp only [h1, not_true_eq_false, if_false, true_and]
      split <;> rfl
    · simp only [h1, not_false_eq_true, if_true, false_and, if_false]

theorem sflRatio_eq (t : Tracker) (seller : Aff) (settle : Int) (sold : Rat) (past future : List Tx) :
    sflRatio t seller settle sold past future =
      (sflInfo t seller settle sold past future).bind fun
        | none => .ok none
        | some i => (calcRatio sold i).map some := by
  unfold sflRatio
  cases sflInfo t seller settle sold past future with
  | error e => rfl
  | ok o =>
    cases o with
    | none => rfl
    | some i =>
      dsimp only [Except.bind]
      cases calcRatio sold i <;> rfl

theorem sflInfo_some {t : Tracker} {seller : Aff} {settle : Int} {sold : Rat} {past future : List Tx}
    {i : SliInfo} (h : sflInfo t seller settle sold past future = .ok (some i)) :
    ¬ t.latestPostAll - sold < 0 ∧ ¬ t.bal seller - sold < 0 ∧
    ∃ s1, scanFwd t (settle + Gen.sflWindowAfterDays) (initScan t seller sold) future = .ok s1 ∧
      sliOf s1 (scanBwd t (settle - Gen.sflWindowBeforeDays) { s1 with adj := fun _ => 1 } past) = some i := by
  rw [sflInfo_eq] at h
  split at h
  · cases h
  split at h
  · cases h
  cases hs1 : scanFwd t (settle + Gen.sflWindowAfterDays) (initScan t seller sold) future with
  | error f =>
    rw [hs1] at h
    cases h
  | ok s1 =>
    rw [hs1] at h
    exact ⟨‹_›, ‹_›, s1, rfl, by simpa [Except.map] using h⟩

theorem sliOf_eq_some_iff {s1 s2 : Scan} {i : SliInfo} :
    sliOf s1 s2 = some i ↔
      0 < s1.allEop ∧ 0 < s2.acquired ∧ i = ⟨s1.allEop, s2.acquired, s2.buyers, s2.active⟩ := by
  unfold sliOf
  by_cases h : 0 < s1.allEop ∧ 0 < s2.acquired
  · simp [h, eq_comm]
  · rw [if_neg h]
    exact ⟨nofun, fun h' => absurd ⟨h'.1, h'.2.1⟩ h⟩

/-- `get_superficial_loss_info` past its two guards and the forward scan. -/
theorem sflInfo_of_fwd {t : Tracker} {seller : Aff} {settle : Int} {sold : Rat} {past future : List Tx}
    {s1 : Scan} (h1 : ¬ t.latestPostAll - sold < 0) (h2 : ¬ t.bal seller - sold < 0)
    (hf : scanFwd t (settle + Gen.sflWindowAfterDays) (initScan t seller sold) future = .ok s1) :
    sflInfo t seller settle sold past future =
      .ok (sliOf s1 (scanBwd t (settle - Gen.sflWindowBeforeDays) { s1 with adj := fun _ => 1 } past)) := by
  rw [sflInfo_eq, if_neg h1, if_neg h2, hf]
  rfl

end Acb
