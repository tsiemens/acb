/-
  One iteration of the loop of `txs_to_delta_list`, said once: later files use these lemmas instead
  of opening `stepRow`, `arm` and the five arms. The exception is ScaleStep.lean, whose two-sided
  scaling lemmas open each once to relate two runs.
-/
import AcbModel.Lemmas.Tracker
import AcbModel.Ledger.Delta
import AcbModel.Ledger.Spec
import AcbModel.Ledger.Valid
import AcbModel.Lemmas.Isort
namespace Acb
open Spec

/-- What the `Spec` books keep of a status. -/
def bookOf (s : Status) : Book := { shares := s.shares, acb := s.acb }

/-- The (negative) loss a delta's superficial-loss record denies; 0 without a record. -/
def sflLoss (o : Option SflInfo) : Rat := match o with | some i => i.loss | none => 0

theorem Spec.after_nil (bs : Books) : after bs [] = bs := rfl

theorem Spec.after_cons (bs : Books) (x : Tx) (l : List Tx) : after bs (x :: l) = after (stepBooks bs x) l := rfl

theorem Spec.after_append (bs : Books) (l1 l2 : List Tx) : after bs (l1 ++ l2) = after (after bs l1) l2 :=
  List.foldl_append

theorem Spec.stepBooks_apply (bs : Books) (tx : Tx) (a : Aff) :
    stepBooks bs tx a = if a = tx.aff then stepBook (bs tx.aff) tx.act else bs a := rfl

theorem Spec.stepBooks_self (bs : Books) (tx : Tx) : stepBooks bs tx tx.aff = stepBook (bs tx.aff) tx.act :=
  if_pos rfl

theorem Spec.stepBooks_of_ne (bs : Books) {tx : Tx} {a : Aff} (h : a ≠ tx.aff) : stepBooks bs tx a = bs a :=
  if_neg h

/-- No rule gives or takes away a cost base. -/
theorem Spec.stepBooks_acb_isSome (bs : Books) (tx : Tx) (a : Aff) :
    (stepBooks bs tx a).acb.isSome = (bs a).acb.isSome := by
  by_cases h : a = tx.aff
  · subst h; rw [stepBooks_self]; cases tx.act <;> simp [stepBook]
  · rw [stepBooks_of_ne bs h]

theorem Spec.regNone_step {bs : Books} (h : ∀ a, a.registered = true → (bs a).acb = none) (tx : Tx) :
    ∀ a, a.registered = true → (stepBooks bs tx a).acb = none := by
  intro a ha
  have := stepBooks_acb_isSome bs tx a
  rwa [h a ha, Option.isSome_none, Option.isSome_eq_false_iff, Option.isNone_iff_eq_none] at this

/-- The three `sanity_check_ptfs` errors. -/
def ErrKind.isSanity : ErrKind → Bool
  | .allLtShares | .regHasAcb | .nonregNoAcb => true
  | _ => false

/-- A failure the user can cause: a `Result::Err` other than the sanity checks. -/
def UserErr (f : Failure) : Prop := ∃ k, f = .err k ∧ k.isSanity = false

theorem UserErr.of_err {k : ErrKind} (h : k.isSanity = false) : UserErr (.err k) := ⟨k, rfl, h⟩

theorem sanityCheck_ok_iff {pre : Status} {a : Aff} :
    sanityCheck pre a = .ok () ↔ ¬ pre.all < pre.shares ∧ a.registered = pre.acb.isNone := by
  unfold sanityCheck
  by_cases h : pre.all < pre.shares
  · simp [h]
  · cases a.registered <;> cases pre.acb <;> simp [h]

theorem stepRow_ok_iff {t t' : Tracker} {tx : Tx} {past future : List Tx} {d : Delta} {inj : List Tx} :
    stepRow t tx past future = .ok (d, t', inj) ↔
      sanityCheck (t.nextPre tx.aff) tx.aff = .ok () ∧
      ∃ o, arm t tx (t.nextPre tx.aff) past future = .ok o ∧ t.setLatest tx.aff o.post = .ok t' ∧
        d = { tx := tx, pre := t.nextPre tx.aff, post := o.post, gain := o.gain, sfl := o.sfl } ∧
        inj = o.inj := by
  simp only [stepRow, deltaForTx]
  cases sanityCheck (t.nextPre tx.aff) tx.aff <;> simp only [reduceCtorEq, false_and]
  cases arm t tx (t.nextPre tx.aff) past future <;>
    simp only [reduceCtorEq, false_and, exists_false, true_and, Except.ok.injEq, exists_eq_left']
  cases t.setLatest tx.aff _ <;> simp [eq_comm, and_left_comm]

/-- An iteration for an affiliate the tracker has no status for: it starts from no shares and the
    default cost base, and the arm's post-status has to keep the tracker's two assertions. -/
theorem stepRow_fresh {t : Tracker} {tx : Tx} (hm : t.m tx.aff = none) (hall : 0 ≤ t.latestAll)
    {past future : List Tx} {o : ArmOut}
    (harm : arm t tx { shares := 0, all := t.latestAll, acb := (defaultStatus tx.aff).acb } past future = .ok o)
    (hreg : tx.aff.registered = o.post.acb.isNone) (hpost : o.post.all = t.latestAll + o.post.shares) :
    stepRow t tx past future =
      .ok ({ tx := tx, pre := { shares := 0, all := t.latestAll, acb := (defaultStatus tx.aff).acb },
             post := o.post, gain := o.gain, sfl := o.sfl }, t.put tx.aff o.post, o.inj) := by
  have hpre : t.nextPre tx.aff = { shares := 0, all := t.latestAll, acb := (defaultStatus tx.aff).acb } := by
    rw [nextPre_eq, bal_of_none hm, acbOf_of_none hm]
  have hsan : sanityCheck (t.nextPre tx.aff) tx.aff = .ok () := by
    rw [hpre]
    exact sanityCheck_ok_iff.mpr ⟨Rat.not_lt.mpr hall, by cases h : tx.aff.registered <;> simp [defaultStatus, h]⟩
  have hset : t.setLatest tx.aff o.post = .ok (t.put tx.aff o.post) :=
    setLatest_ok_iff.mpr ⟨hreg,
      by rw [hpost, bal_of_none hm, rat_sub_zero, Rat.add_comm], rfl⟩
  exact stepRow_ok_iff.mpr ⟨hsan, o, hpre ▸ harm, hset, by rw [hpre], rfl⟩

theorem stepRow_error_iff {t : Tracker} {tx : Tx} {past future : List Tx} {f : Failure} :
    stepRow t tx past future = .error f ↔
      sanityCheck (t.nextPre tx.aff) tx.aff = .error f ∨
      sanityCheck (t.nextPre tx.aff) tx.aff = .ok () ∧
        (arm t tx (t.nextPre tx.aff) past future = .error f ∨
         ∃ o, arm t tx (t.nextPre tx.aff) past future = .ok o ∧
           t.setLatest tx.aff o.post = .error f) := by
  simp only [stepRow, deltaForTx]
  cases sanityCheck (t.nextPre tx.aff) tx.aff <;>
    simp only [reduceCtorEq, false_and, or_false, false_or, true_and, Except.error.injEq]
  cases arm t tx (t.nextPre tx.aff) past future <;>
    simp only [reduceCtorEq, false_and, exists_false, or_false, false_or, Except.error.injEq,
      Except.ok.injEq, exists_eq_left']
  cases t.setLatest tx.aff _ <;> simp

theorem stepRow_tx {t t' : Tracker} {tx : Tx} {past future : List Tx} {d : Delta} {inj : List Tx}
    (h : stepRow t tx past future = .ok (d, t', inj)) : d.tx = tx := by
  obtain ⟨_, _, _, _, rfl, _⟩ := stepRow_ok_iff.mp h; rfl

theorem stepRow_put {t t' : Tracker} {tx : Tx} {past future : List Tx} {d : Delta} {inj : List Tx}
    (h : stepRow t tx past future = .ok (d, t', inj)) : t' = t.put tx.aff d.post := by
  obtain ⟨_, _, _, hs, rfl, _⟩ := stepRow_ok_iff.mp h; exact (setLatest_ok_iff.mp hs).2.2

/-- The post-status of a row is a function of its pre-status and action alone: the window scans
    decide the gain and the generated rows, never the balances. -/
def postOf (pre : Status) : Action → Status
  | .buy sh px comm rate crate =>
    { shares := pre.shares + sh, all := pre.all + sh,
      acb := pre.acb.map (· + (px * sh * rate + comm * commRate rate crate)) }
  | .sell sh _ _ _ _ _ =>
    { shares := pre.shares - sh, all := pre.all - sh,
      acb := (perShareAcb pre).map ((pre.shares - sh) * ·) }
  | .roc ps rate => { pre with acb := pre.acb.map (· - ps * pre.shares * rate) }
  | .sfla sh ps => { pre with acb := pre.acb.map (· + sh * ps) }
  | .split post pre' _ =>
    { pre with shares := pre.shares * splitFactor post pre',
               all := pre.all + (pre.shares * splitFactor post pre' - pre.shares) }

theorem perShareAcb_eq (s : Status) :
    perShareAcb s = s.acb.map (fun a => if 0 < s.shares then a / s.shares else 0) := by
  unfold perShareAcb; cases s.acb <;> rfl

theorem postOf_all (pre : Status) (act : Action) :
    (postOf pre act).all = (postOf pre act).shares + pre.all - pre.shares := by
  cases act <;> simp only [postOf] <;> grind

theorem postOf_acb_isNone (pre : Status) (act : Action) :
    (postOf pre act).acb.isNone = pre.acb.isNone := by
  cases act <;> cases h : pre.acb <;> simp [postOf, perShareAcb_eq, h]

section arms
variable {t : Tracker} {tx : Tx} {pre : Status} {past future : List Tx} {o : ArmOut} {f : Failure}
  {sh px comm rate : Rat} {crate : Option Rat} {spec : Option (Rat × Bool)}

theorem arm_sell (h : tx.act = .sell sh px comm rate crate spec) :
    arm t tx pre past future = armSell t tx pre sh px comm rate crate spec past future := by
  simp only [arm, h]

theorem arm_roc {ps : Rat} (h : tx.act = .roc ps rate) :
    arm t tx pre past future = armRoc tx.aff.registered pre ps rate := by
  simp only [arm, h]

theorem arm_sfla {ps : Rat} (h : tx.act = .sfla sh ps) :
    arm t tx pre past future = armSfla tx.aff.registered pre sh ps := by
  simp only [arm, h]

theorem arm_split {post pre' : Rat} {io : Bool} (h : tx.act = .split post pre' io) :
    arm t tx pre past future = armSplit pre post pre' io := by
  simp only [arm, h]

/-- What the Sell arm returns for a seller with a cost base: `g` is the gain before the
    superficial-loss rule, `r` the result of `get_delta_superficial_loss_info` (`none` for a gain). -/
def sellOut (pre : Status) (act : Action) (g : Rat) : Option (SflInfo × List Tx) → ArmOut
  | none => { post := postOf pre act, gain := some g }
  | some (info, adj) => { post := postOf pre act, gain := some (g - info.loss), sfl := some info, inj := adj }

theorem sellOut_post (pre : Status) (act : Action) (g : Rat) (r : Option (SflInfo × List Tx)) :
    (sellOut pre act g r).post = postOf pre act := by
  cases r <;> rfl

theorem sellOut_gain (pre : Status) (act : Action) (g : Rat) (r : Option (SflInfo × List Tx)) :
    (sellOut pre act g r).gain = some (g - sflLoss (sellOut pre act g r).sfl) := by
  cases r with
  | none => simp only [sellOut, sflLoss, rat_sub_zero]
  | some ia => rfl

theorem armSell_oversell (hA : pre.shares - sh < 0) :
    armSell t tx pre sh px comm rate crate spec past future = .error (.err .oversell) := by
  rw [armSell, if_pos hA]

theorem armSell_oversellAll (hA : ¬ pre.shares - sh < 0) (hB : pre.all - sh < 0) :
    armSell t tx pre sh px comm rate crate spec past future = .error (.err .oversellAll) := by
  rw [armSell, if_neg hA, if_pos hB]

/-- The sale of a registered affiliate: no cost base, so no gain or loss. -/
theorem armSell_registered (hA : ¬ pre.shares - sh < 0) (hB : ¬ pre.all - sh < 0)
    (hp : perShareAcb pre = none) :
    armSell t tx pre sh px comm rate crate spec past future =
      if spec.isSome then .error (.err .sflNoLoss)
      else .ok { post := postOf pre (.sell sh px comm rate crate spec) } := by
  have hacb : pre.acb = none := Option.map_eq_none_iff.mp ((perShareAcb_eq pre).symm.trans hp)
  rw [armSell, if_neg hA, if_neg hB]
  simp only [hp, postOf, hacb, Option.map_none]

theorem armSell_gain {aps : Rat} (hA : ¬ pre.shares - sh < 0) (hB : ¬ pre.all - sh < 0)
    (hp : perShareAcb pre = some aps) (hg : ¬ px * sh * rate - comm * commRate rate crate - aps * sh < 0) :
    armSell t tx pre sh px comm rate crate spec past future =
      if spec.isSome then .error (.err .sflNoLoss)
      else .ok (sellOut pre (.sell sh px comm rate crate spec)
        (px * sh * rate - comm * commRate rate crate - aps * sh) none) := by
  rw [armSell, if_neg hA, if_neg hB]
  simp only [hp, if_neg hg, sellOut, postOf, Option.map_some]

theorem armSell_loss {aps : Rat} (hA : ¬ pre.shares - sh < 0) (hB : ¬ pre.all - sh < 0)
    (hp : perShareAcb pre = some aps) (hg : px * sh * rate - comm * commRate rate crate - aps * sh < 0) :
    armSell t tx pre sh px comm rate crate spec past future =
      (deltaSflInfo t tx sh spec (px * sh * rate - comm * commRate rate crate - aps * sh) past future).map
        (sellOut pre (.sell sh px comm rate crate spec)
          (px * sh * rate - comm * commRate rate crate - aps * sh)) := by
  rw [armSell, if_neg hA, if_neg hB]
  simp only [hp, if_pos hg]
  cases deltaSflInfo t tx sh spec (px * sh * rate - comm * commRate rate crate - aps * sh) past future with
  | error e => rfl
  | ok r => cases r <;> simp only [Except.map, sellOut, postOf, hp, Option.map_some]

/-- What a sale that goes through returns: the seller holds the shares, and with a cost base the
    result is `sellOut` of what `get_delta_superficial_loss_info` said (asked only at a loss). -/
theorem armSell_ok (h : armSell t tx pre sh px comm rate crate spec past future = .ok o) :
    ¬ pre.shares - sh < 0 ∧ ¬ pre.all - sh < 0 ∧
    ((perShareAcb pre = none ∧ spec = none ∧ o = { post := postOf pre (.sell sh px comm rate crate spec) }) ∨
     ∃ aps r, perShareAcb pre = some aps ∧
       o = sellOut pre (.sell sh px comm rate crate spec)
         (px * sh * rate - comm * commRate rate crate - aps * sh) r ∧
       if px * sh * rate - comm * commRate rate crate - aps * sh < 0 then
         deltaSflInfo t tx sh spec (px * sh * rate - comm * commRate rate crate - aps * sh) past future = .ok r
       else spec = none ∧ r = none) := by
  by_cases hA : pre.shares - sh < 0
  · rw [armSell_oversell hA] at h; cases h
  by_cases hB : pre.all - sh < 0
  · rw [armSell_oversellAll hA hB] at h; cases h
  refine ⟨hA, hB, ?_⟩
  cases hp : perShareAcb pre with
  | none =>
    rw [armSell_registered hA hB hp] at h
    cases spec with
    | some _ => cases h
    | none => cases h; exact .inl ⟨rfl, rfl, rfl⟩
  | some aps =>
    by_cases hg : px * sh * rate - comm * commRate rate crate - aps * sh < 0
    · rw [armSell_loss hA hB hp hg] at h
      obtain ⟨r, hd, rfl⟩ := Except.map_eq_ok_iff.mp h
      exact .inr ⟨aps, r, rfl, rfl, by rw [if_pos hg]; exact hd⟩
    · rw [armSell_gain hA hB hp hg] at h
      cases spec with
      | some _ => cases h
      | none => cases h; exact .inr ⟨aps, none, rfl, rfl, by rw [if_neg hg]; exact ⟨rfl, rfl⟩⟩

end arms

theorem arm_buy {t : Tracker} {tx : Tx} {pre : Status} {past future : List Tx} {sh px comm rate : Rat}
    {crate : Option Rat} (h : tx.act = .buy sh px comm rate crate) :
    arm t tx pre past future = .ok { post := postOf pre tx.act } := by
  simp only [arm, h, postOf, armBuy]
  cases pre.acb <;> rfl

theorem armRoc_ok_iff {reg : Bool} {pre : Status} {ps rate : Rat} {o : ArmOut} :
    armRoc reg pre ps rate = .ok o ↔
      reg = false ∧ (∃ old, pre.acb = some old ∧ ¬ old - ps * pre.shares * rate < 0) ∧
        o = { post := postOf pre (.roc ps rate) } := by
  unfold armRoc
  cases hacb : pre.acb with
  | none => by_cases hr : reg = true <;> simp [hr]
  | some old =>
    by_cases hr : reg = true
    · simp [hr]
    · by_cases hlt : old - ps * pre.shares * rate < 0
      · simp [hr, hlt]
      · simp only [hr, hlt, if_false]
        exact ⟨fun h => ⟨trivial, ⟨old, rfl, hlt⟩, by cases h; simp [postOf, hacb]⟩,
          fun h => by rw [h.2.2]; simp [postOf, hacb]⟩

theorem armSfla_ok_iff {reg : Bool} {pre : Status} {sh ps : Rat} {o : ArmOut} :
    armSfla reg pre sh ps = .ok o ↔
      reg = false ∧ pre.acb.isSome ∧ o = { post := postOf pre (.sfla sh ps) } := by
  unfold armSfla
  cases hacb : pre.acb with
  | none => by_cases hr : reg = true <;> simp [hr]
  | some old =>
    by_cases hr : reg = true
    · simp [hr]
    · simp only [hr]
      exact ⟨fun h => ⟨trivial, rfl, by cases h; simp [postOf, hacb]⟩,
        fun h => by rw [h.2.2]; simp [postOf, hacb]⟩

theorem armSplit_ok_iff {pre : Status} {post pre' : Rat} {io : Bool} {o : ArmOut} :
    armSplit pre post pre' io = .ok o ↔
      ¬ pre.all + (pre.shares * splitFactor post pre' - pre.shares) < 0 ∧
      ¬ (pre' > post ∧ io ∧ ¬ isInteger (pre.shares * splitFactor post pre')) ∧
      o = { post := postOf pre (.split post pre' io) } := by
  unfold armSplit
  by_cases h1 : pre.all + (pre.shares * splitFactor post pre' - pre.shares) < 0
  · simp [h1]
  · by_cases h2 : pre' > post ∧ io ∧ ¬ isInteger (pre.shares * splitFactor post pre')
    · simp [h1, h2]
    · rw [if_neg h1, if_neg h2]
      exact ⟨fun h => ⟨h1, h2, by cases h; rfl⟩, fun h => by rw [h.2.2]; rfl⟩

/-- With the cost base present exactly for the non-registered (`sanity_check_ptfs`), the two
    assertions of the RoC arm hold and two errors are left. -/
theorem armRoc_error_iff {reg : Bool} {pre : Status} {ps rate : Rat} {f : Failure}
    (hreg : pre.acb.isNone = reg) :
    armRoc reg pre ps rate = .error f ↔
      reg = true ∧ f = .err .rocRegistered ∨
      f = .err .rocExceeds ∧ ∃ old, pre.acb = some old ∧ old - ps * pre.shares * rate < 0 := by
  unfold armRoc
  subst hreg
  cases hacb : pre.acb with
  | none => simp [eq_comm]
  | some old => by_cases hlt : old - ps * pre.shares * rate < 0 <;> simp [hlt, eq_comm]

theorem armSfla_error_iff {reg : Bool} {pre : Status} {sh ps : Rat} {f : Failure}
    (hreg : pre.acb.isNone = reg) :
    armSfla reg pre sh ps = .error f ↔ reg = true ∧ f = .err .sflaRegistered := by
  unfold armSfla
  subst hreg
  cases hacb : pre.acb <;> simp [eq_comm]

theorem armSplit_error_iff {pre : Status} {post pre' : Rat} {io : Bool} {f : Failure} :
    armSplit pre post pre' io = .error f ↔
      pre.all + (pre.shares * splitFactor post pre' - pre.shares) < 0 ∧ f = .err .splitAllNeg ∨
      ¬ pre.all + (pre.shares * splitFactor post pre' - pre.shares) < 0 ∧
        (pre' > post ∧ io ∧ ¬ isInteger (pre.shares * splitFactor post pre')) ∧
        f = .err .reverseSplitFraction := by
  unfold armSplit
  by_cases h1 : pre.all + (pre.shares * splitFactor post pre' - pre.shares) < 0
  · rw [if_pos h1]
    exact ⟨fun h => .inl ⟨h1, by cases h; rfl⟩, fun h => by
      rcases h with ⟨_, rfl⟩ | ⟨h, _⟩
      · rfl
      · exact absurd h1 h⟩
  · rw [if_neg h1]
    by_cases h2 : pre' > post ∧ io ∧ ¬ isInteger (pre.shares * splitFactor post pre')
    · rw [if_pos h2]
      exact ⟨fun h => .inr ⟨h1, h2, by cases h; rfl⟩, fun h => by
        rcases h with ⟨h, _⟩ | ⟨_, _, rfl⟩
        · exact absurd h h1
        · rfl⟩
    · rw [if_neg h2]
      exact ⟨nofun, fun h => h.elim (fun h => absurd h.1 h1) fun h => absurd h.2.1 h2⟩

theorem arm_plain {t : Tracker} {tx : Tx} {pre : Status} {past future : List Tx} {o : ArmOut}
    (hs : tx.act.isSell = false) (h : arm t tx pre past future = .ok o) :
    o = { post := postOf pre tx.act } := by
  cases hact : tx.act with
  | buy sh px comm rate crate => rw [arm_buy hact] at h; cases h; rw [hact]
  | sell sh px comm rate crate spec => rw [hact] at hs; cases hs
  | roc ps rate => rw [arm_roc hact] at h; exact (armRoc_ok_iff.mp h).2.2
  | sfla sh ps => rw [arm_sfla hact] at h; exact (armSfla_ok_iff.mp h).2.2
  | split post pre' io => rw [arm_split hact] at h; exact (armSplit_ok_iff.mp h).2.2

theorem arm_post {t : Tracker} {tx : Tx} {pre : Status} {past future : List Tx} {o : ArmOut}
    (h : arm t tx pre past future = .ok o) : o.post = postOf pre tx.act := by
  cases hact : tx.act with
  | sell sh px comm rate crate spec =>
    rw [arm_sell hact] at h
    rcases (armSell_ok h).2.2 with ⟨-, -, rfl⟩ | ⟨_, _, -, rfl, -⟩
    · rfl
    · exact sellOut_post ..
  | _ => rw [arm_plain (by simp [hact, Action.isSell]) h, hact]

theorem arm_all {t : Tracker} {tx : Tx} {pre : Status} {past future : List Tx} {o : ArmOut}
    (h : arm t tx pre past future = .ok o) : o.post.all = o.post.shares + pre.all - pre.shares := by
  rw [arm_post h]; exact postOf_all pre tx.act

/-- A sale sells a positive number of shares (guaranteed by `PosDecimal`; all the one-row lemmas
    need of `Tx.Valid`, and true of the generated SfLA rows). -/
def SellPos (tx : Tx) : Prop :=
  ∀ sh px comm rate crate spec, tx.act = .sell sh px comm rate crate spec → 0 < sh

theorem SellPos_of_valid {tx : Tx} (h : tx.Valid) : SellPos tx := by
  intro sh px comm rate crate spec hact
  unfold Tx.Valid at h; rw [hact] at h; exact h.1

/-- Every arm of `delta_for_tx` follows the average-cost rules of `Spec`. -/
theorem arm_book {t : Tracker} {tx : Tx} {pre : Status} {past future : List Tx} {o : ArmOut}
    (hv : SellPos tx) (h : arm t tx pre past future = .ok o) :
    bookOf o.post = stepBook (bookOf pre) tx.act ∧
    o.gain = (gain0 (bookOf pre) tx.act).map (fun g => g - sflLoss o.sfl) := by
  cases hact : tx.act with
  | sell sh px comm rate crate spec =>
    rw [arm_sell hact] at h
    obtain ⟨h1, -, hrest⟩ := armSell_ok h
    -- 0 < sh ≤ pre.shares: the per-share cost is `acb / shares`
    have hS : 0 < pre.shares := by have := hv _ _ _ _ _ _ hact; grind
    rcases hrest with ⟨hp, -, rfl⟩ | ⟨aps, r, hp, rfl, -⟩
    · have hacb : pre.acb = none := Option.map_eq_none_iff.mp ((perShareAcb_eq pre).symm.trans hp)
      simp only [bookOf, stepBook, gain0, postOf, hp, hacb, Option.map_none, and_self]
    · obtain ⟨a, hacb, rfl⟩ := Option.map_eq_some_iff.mp ((perShareAcb_eq pre).symm.trans hp)
      rw [sellOut_post, sellOut_gain]
      simp only [bookOf, stepBook, gain0, postOf, hp, hacb, Option.map_some, hS, if_true, Book.mk.injEq,
        Option.some.injEq, true_and]
      grind
  | _ =>
    rw [arm_plain (by simp [hact, Action.isSell]) h, hact]
    cases hacb : pre.acb <;> simp [bookOf, stepBook, gain0, postOf, hacb, splitFactor]

theorem arm_spec {t : Tracker} {tx : Tx} {pre : Status} {past future : List Tx} {o : ArmOut}
    (hv : tx.Valid) (h : arm t tx pre past future = .ok o) :
    bookOf o.post = stepBook (bookOf pre) tx.act ∧
    o.gain = (gain0 (bookOf pre) tx.act).map (fun g => g - sflLoss o.sfl) :=
  arm_book (SellPos_of_valid hv) h

/-- The SfLA row `adjustTxs` generates for one buyer's portion, if any. -/
def adjustRow (tx : Tx) (c : Rat) (p : Aff × Rat × Rat) : Option Tx :=
  if ¬ p.1.registered ∧ 0 < (-c) * (p.2.1 / p.2.2) then
    some { tx with aff := p.1, act := .sfla 1 ((-c) * (p.2.1 / p.2.2)) }
  else none

theorem adjustTxs_eq (tx : Tx) (c : Rat) (l : List (Aff × Rat × Rat)) :
    adjustTxs tx c l = .ok (l.filterMap (adjustRow tx c)) := by
  induction l with
  | nil => rfl
  | cons p ps ih =>
    obtain ⟨af, n, d⟩ := p
    simp only [adjustTxs, ih, List.filterMap_cons, adjustRow]
    split <;> rfl

theorem adjustRow_some {tx : Tx} {c : Rat} {p : Aff × Rat × Rat} {x : Tx}
    (h : adjustRow tx c p = some x) :
    p.1.registered = false ∧ 0 < (-c) * (p.2.1 / p.2.2) ∧
      x = { tx with aff := p.1, act := .sfla 1 ((-c) * (p.2.1 / p.2.2)) } := by
  unfold adjustRow at h
  split at h
  · rename_i hp; exact ⟨by simpa using hp.1, hp.2, by simpa [eq_comm] using h⟩
  · cases h

/-- The superficial loss computed from the ratio (0 when the scan finds none). -/
def calcSflOf (loss : Rat) : Option SflRatio → Rat
  | none => 0
  | some r => effCent (loss * (r.num / r.den))

/-- `get_delta_superficial_loss_info` once the ratio is known. -/
def dsiOf (tx : Tx) (sold : Rat) (spec : Option (Rat × Bool)) (loss : Rat)
    (msfl : Option SflRatio) : Except Failure (Option (SflInfo × List Tx)) :=
  let csfl : Rat := calcSflOf loss msfl
  match spec with
  | some (v, force) =>
    if !force && (rabs (csfl - v) > sflMaxDiff) then .error (.err .sflMismatch)
    else if v < 0 then
      .ok (some ({ loss := v, num := (v / loss) * sold, den := sold, over := false }, []))
    else .ok none
  | none =>
    match msfl with
    | none => .ok none
    | some r =>
      if ¬ (csfl < 0) then .ok none
      else .ok (some ({ loss := csfl, num := r.num, den := r.den, over := r.over,
                        overMargin := r.overMargin },
                      (sortByKey r.portions).filterMap (adjustRow tx csfl)))

/-- the allowance of `Gen.sflMaxDiffNum/Den` admits an amount that is exactly the computed one -/
theorem sflMaxDiff_nonneg : 0 ≤ sflMaxDiff := by decide +kernel

theorem dsiOf_some (tx : Tx) (sold v : Rat) (force : Bool) (loss : Rat) (msfl : Option SflRatio) :
    dsiOf tx sold (some (v, force)) loss msfl =
      if force = false ∧ rabs (calcSflOf loss msfl - v) > sflMaxDiff then
        .error (.err .sflMismatch)
      else if v < 0 then
        .ok (some ({ loss := v, num := (v / loss) * sold, den := sold, over := false }, []))
      else .ok none := by
  cases msfl <;> cases force <;> simp [dsiOf, calcSflOf]

theorem dsiOf_none (tx : Tx) (sold loss : Rat) (msfl : Option SflRatio) :
    dsiOf tx sold none loss msfl = .ok (msfl.bind fun r =>
      if calcSflOf loss msfl < 0 then
        some ({ loss := calcSflOf loss msfl, num := r.num, den := r.den, over := r.over,
                overMargin := r.overMargin },
              (sortByKey r.portions).filterMap (adjustRow tx (calcSflOf loss msfl)))
      else none) := by
  cases msfl with
  | none => rfl
  | some r => by_cases h : calcSflOf loss (some r) < 0 <;> simp [dsiOf, h]

theorem deltaSflInfo_eq (t : Tracker) (tx : Tx) (sold : Rat) (spec : Option (Rat × Bool)) (loss : Rat)
    (past future : List Tx) :
    deltaSflInfo t tx sold spec loss past future =
      (sflRatio t tx.aff tx.settle sold past future).bind (dsiOf tx sold spec loss) := by
  unfold deltaSflInfo dsiOf
  cases sflRatio t tx.aff tx.settle sold past future with
  | error e => rfl
  | ok msfl =>
    simp only [adjustTxs_eq, Except.bind]
    cases msfl <;> cases spec <;> rfl

theorem sortByKey_eq_isort (l : List (Aff × Rat × Rat)) :
    sortByKey l = isort (fun x y => decide (x.1.key ≤ y.1.key)) l :=
  foldr_eq_isort (ins := insertByKey) (fun _ => rfl) (fun _ _ _ => by simp [insertByKey]) l

theorem sortByKey_perm (l : List (Aff × Rat × Rat)) : (sortByKey l).Perm l :=
  sortByKey_eq_isort l ▸ isort_perm _ l

theorem mem_sortByKey {y : Aff × Rat × Rat} {l : List (Aff × Rat × Rat)} :
    y ∈ sortByKey l ↔ y ∈ l := (sortByKey_perm l).mem_iff

theorem sortByKey_map {g : Aff × Rat × Rat → Aff × Rat × Rat} (hg : ∀ x, (g x).1 = x.1) (l : List (Aff × Rat × Rat)) :
    sortByKey (l.map g) = (sortByKey l).map g := by
  have ins : ∀ x l, insertByKey (g x) (l.map g) = (insertByKey x l).map g := by
    intro x l
    induction l with
    | nil => rfl
    | cons y ys ih =>
      simp only [List.map_cons, insertByKey, hg, ih]
      split <;> rfl
  unfold sortByKey
  induction l with
  | nil => rfl
  | cons y ys ih => simp only [List.map_cons, List.foldr_cons, ih, ins]

theorem dsiOf_mem {tx : Tx} {sold loss : Rat} {spec : Option (Rat × Bool)} {msfl : Option SflRatio}
    {info : SflInfo} {adj : List Tx} (h : dsiOf tx sold spec loss msfl = .ok (some (info, adj)))
    {x : Tx} (hx : x ∈ adj) :
    ∃ r p, spec = none ∧ msfl = some r ∧ p ∈ r.portions ∧ adjustRow tx info.loss p = some x := by
  rcases spec with _ | ⟨v, force⟩
  · rw [dsiOf_none, Except.ok.injEq] at h
    obtain ⟨r, rfl, h⟩ := Option.bind_eq_some_iff.mp h
    split at h <;> cases h
    obtain ⟨p, hp, hpx⟩ := List.mem_filterMap.mp hx
    exact ⟨r, p, rfl, rfl, mem_sortByKey.mp hp, hpx⟩
  · rw [dsiOf_some] at h
    split at h; · cases h
    split at h <;> cases h
    cases hx

theorem dsiOf_error_iff {tx : Tx} {sold loss : Rat} {spec : Option (Rat × Bool)} {m : Option SflRatio}
    {f : Failure} : dsiOf tx sold spec loss m = .error f ↔
      f = .err .sflMismatch ∧ ∃ v, spec = some (v, false) ∧ rabs (calcSflOf loss m - v) > sflMaxDiff := by
  rcases spec with _ | ⟨v, force⟩
  · simp [dsiOf_none]
  · rw [dsiOf_some]
    by_cases hc : force = false ∧ rabs (calcSflOf loss m - v) > sflMaxDiff
    · rw [if_pos hc]
      exact ⟨fun h => ⟨by cases h; rfl, v, by rw [hc.1], hc.2⟩, fun h => by rw [h.1]⟩
    · rw [if_neg hc]
      constructor
      · intro hf
        split at hf <;> cases hf
      · rintro ⟨_, v', hv, h2⟩
        cases hv
        exact absurd ⟨rfl, h2⟩ hc

theorem dsiOf_err {tx : Tx} {sold loss : Rat} {spec : Option (Rat × Bool)} {m : Option SflRatio}
    {f : Failure} (h : dsiOf tx sold spec loss m = .error f) : f = .err .sflMismatch :=
  (dsiOf_error_iff.mp h).1

/-- Only a sale at a loss reports a superficial loss or generates rows, and then those that
    `get_delta_superficial_loss_info` returned. -/
theorem arm_sfl_cases {t : Tracker} {tx : Tx} {pre : Status} {past future : List Tx} {o : ArmOut}
    (h : arm t tx pre past future = .ok o) :
    (o.sfl = none ∧ o.inj = []) ∨
    ∃ sh px comm rate crate spec aps info adj, tx.act = .sell sh px comm rate crate spec ∧
      ¬ pre.shares - sh < 0 ∧ ¬ pre.all - sh < 0 ∧ perShareAcb pre = some aps ∧
      px * sh * rate - comm * commRate rate crate - aps * sh < 0 ∧
      deltaSflInfo t tx sh spec (px * sh * rate - comm * commRate rate crate - aps * sh) past future =
        .ok (some (info, adj)) ∧
      o = sellOut pre (.sell sh px comm rate crate spec)
        (px * sh * rate - comm * commRate rate crate - aps * sh) (some (info, adj)) := by
  cases hact : tx.act with
  | sell sh px comm rate crate spec =>
    rw [arm_sell hact] at h
    obtain ⟨hA, hB, ⟨-, -, rfl⟩ | ⟨aps, r, hp, rfl, hr⟩⟩ := armSell_ok h
    · exact .inl ⟨rfl, rfl⟩
    · by_cases hg : px * sh * rate - comm * commRate rate crate - aps * sh < 0
      · rw [if_pos hg] at hr
        cases r with
        | none => exact .inl ⟨rfl, rfl⟩
        | some ia => exact .inr ⟨_, _, _, _, _, _, aps, ia.1, ia.2, rfl, hA, hB, hp, hg, hr, rfl⟩
      · rw [if_neg hg] at hr
        rw [hr.2]
        exact .inl ⟨rfl, rfl⟩
  | _ => rw [arm_plain (by simp [hact, Action.isSell]) h]; exact .inl ⟨rfl, rfl⟩

theorem arm_inj_mem {t : Tracker} {tx : Tx} {pre : Status} {past future : List Tx} {o : ArmOut}
    (h : arm t tx pre past future = .ok o) {x : Tx} (hx : x ∈ o.inj) :
    ∃ sh r p c, sflRatio t tx.aff tx.settle sh past future = .ok (some r) ∧ p ∈ r.portions ∧
      adjustRow tx c p = some x := by
  rcases arm_sfl_cases h with ⟨_, h0⟩ | ⟨sh, _, _, _, _, spec, _, info, adj, _, _, _, _, _, hd, rfl⟩
  · rw [h0] at hx; cases hx
  · rw [deltaSflInfo_eq] at hd
    obtain ⟨msfl, hr, hd⟩ := Except.bind_eq_ok_iff.mp hd
    obtain ⟨r, p, _, rfl, hp, hrow⟩ := dsiOf_mem hd hx
    exact ⟨sh, r, p, _, hr, hp, hrow⟩

theorem arm_inj_row {t : Tracker} {tx : Tx} {pre : Status} {past future : List Tx} {o : ArmOut}
    (h : arm t tx pre past future = .ok o) {x : Tx} (hx : x ∈ o.inj) :
    ∃ a amt, a.registered = false ∧ 0 < amt ∧ x = { tx with aff := a, act := .sfla 1 amt } := by
  obtain ⟨_, _, p, _, _, _, hrow⟩ := arm_inj_mem h hx
  exact ⟨p.1, _, adjustRow_some hrow⟩

theorem stepRow_inj_row {t t' : Tracker} {tx : Tx} {past future : List Tx} {d : Delta}
    {inj : List Tx} (h : stepRow t tx past future = .ok (d, t', inj)) {x : Tx} (hx : x ∈ inj) :
    ∃ a amt, a.registered = false ∧ 0 < amt ∧ x = { tx with aff := a, act := .sfla 1 amt } := by
  obtain ⟨_, o, ho, _, _, rfl⟩ := stepRow_ok_iff.mp h
  exact arm_inj_row ho hx

/-- A cost-base adjustment row (what `adjustTxs` generates). -/
def IsSfla (x : Tx) : Prop := ∃ sh ps, x.act = .sfla sh ps

theorem IsSfla.isSell {x : Tx} (h : IsSfla x) : x.act.isSell = false := by
  obtain ⟨_, _, e⟩ := h; rw [e]; rfl

theorem IsSfla.sellPos {x : Tx} (h : IsSfla x) : SellPos x := by
  obtain ⟨_, _, e⟩ := h
  intro _ _ _ _ _ _ hact
  rw [e] at hact; cases hact

theorem stepRow_inj {t t' : Tracker} {tx : Tx} {past future : List Tx} {d : Delta} {inj : List Tx}
    (h : stepRow t tx past future = .ok (d, t', inj)) : ∀ x ∈ inj, IsSfla x := by
  intro x hx
  obtain ⟨_, _, _, _, rfl⟩ := stepRow_inj_row h hx
  exact ⟨_, _, rfl⟩

theorem stepRow_inj_nil {t t' : Tracker} {tx : Tx} {past future : List Tx} {d : Delta}
    {inj : List Tx} (hs : tx.act.isSell = false) (h : stepRow t tx past future = .ok (d, t', inj)) :
    inj = [] := by
  obtain ⟨_, o, ho, _, _, rfl⟩ := stepRow_ok_iff.mp h
  rw [arm_plain hs ho]

/-- A sale at a loss by a seller with a cost base: the only action whose arm reads the tracker and
    the two histories (through the ratio: `arm_congr`). -/
def LossSale (pre : Status) (act : Action) : Prop :=
  ∃ sh px comm rate crate spec aps, act = .sell sh px comm rate crate spec ∧
    perShareAcb pre = some aps ∧ px * sh * rate - comm * commRate rate crate - aps * sh < 0

theorem arm_congr {t t' : Tracker} {x : Tx} {pre : Status} {p p' f f' : List Tx}
    (h : LossSale pre x.act → ∀ sold,
      sflRatio t' x.aff x.settle sold p' f' = sflRatio t x.aff x.settle sold p f) :
    arm t' x pre p' f' = arm t x pre p f := by
  unfold arm
  cases hact : x.act with
  | sell sh px comm rate crate spec =>
    simp only [armSell]
    cases hp : perShareAcb pre with
    | none => rfl
    | some aps =>
      by_cases hg : px * sh * rate - comm * commRate rate crate - aps * sh < 0
      · simp only [hg, if_true, deltaSflInfo_eq, h ⟨_, _, _, _, _, _, _, hact, hp, hg⟩]
      · simp only [hg, if_false]
  | _ => rfl

def IsLossSale (t : Tracker) (x : Tx) : Prop := LossSale (t.nextPre x.aff) x.act

theorem stepRow_congr {t : Tracker} {x : Tx} {p p' f f' : List Tx}
    (h : IsLossSale t x → ∀ sold,
      sflRatio t x.aff x.settle sold p' f' = sflRatio t x.aff x.settle sold p f) :
    stepRow t x p' f' = stepRow t x p f := by
  simp only [stepRow, deltaForTx]
  rw [arm_congr h]

end Acb
