/-
  The range selection of the summary (`get_summary_range_delta_indicies`) on deltas in date order
  that split into "settling on or before the summary date" and "settling after it", and what the
  selected cut guarantees (`summaryRange_cut`).
-/
import AcbModel.Lemmas.RunDeltas
import AcbModel.App.Summary
import AcbModel.Lemmas.Lists
namespace Acb

theorem latestInRange_append (latest : Int) :
    ∀ (A B : List Delta) (i : Nat) (acc : Option Nat), (∀ d ∈ A, d.tx.settle ≤ latest) →
      latestInRange latest (A ++ B) i acc =
        latestInRange latest B (i + A.length) (if A = [] then acc else some (i + A.length - 1)) := by
  intro A
  induction A with
  | nil =>
    intro B i acc _
    simp
  | cons d A ih =>
    intro B i acc h
    have hd : ¬ d.tx.settle > latest := by have := h d (by simp); omega
    simp only [List.cons_append, latestInRange, hd, if_false]
    rw [ih B (i + 1) (some i) (fun e he => h e (by simp [he]))]
    have e1 : i + 1 + A.length = i + (d :: A).length := by simp; omega
    rw [e1]
    by_cases hA : A = []
    · subst hA
      simp
    · simp only [hA, if_false, List.cons_ne_nil, List.length_cons]

theorem latestInRange_after (latest : Int) (B : List Delta) (i : Nat) (acc : Option Nat)
    (h : ∀ d ∈ B, latest < d.tx.settle) : latestInRange latest B i acc = acc := by
  cases B with
  | nil => rfl
  | cons d B =>
    have : d.tx.settle > latest := h d (by simp)
    simp [latestInRange, this]

/-- the index list the backwards walk of the range selection runs over -/
def idxRev (A : List Delta) : List (Nat × Delta) := (A.zipIdx.map (fun (d, i) => (i, d))).reverse

theorem idxRev_snoc (A : List Delta) (d : Delta) :
    idxRev (A ++ [d]) = (A.length, d) :: idxRev A := by
  simp [idxRev, List.zipIdx_append]

theorem summaryRange_split (latest : Int) (A B : List Delta) (hA : ∀ d ∈ A, d.tx.settle ≤ latest)
    (hB : ∀ d ∈ B, latest < d.tx.settle) (hne : A ≠ []) :
    summaryRange latest (A ++ B) = some
      { lastInRange := A.length - 1
        lastSummarizable := match firstConflict (A.getLast hne).tx.settle B with
          | none => some (A.length - 1)
          | some first => latestSummarizable first (idxRev A) } := by
  unfold summaryRange
  rw [latestInRange_append latest A B 0 none hA, latestInRange_after latest B _ _ hB]
  simp only [hne, if_false, Nat.zero_add]
  have hpos : 0 < A.length := List.length_pos_iff.mpr hne
  have e1 : A.length - 1 + 1 = A.length := by omega
  have hget : (A ++ B)[A.length - 1]? = some (A.getLast hne) := by
    rw [List.getElem?_append_left (by omega), List.getLast_eq_getElem]
    exact List.getElem?_eq_getElem (by omega)
  simp only [hget, Option.map_some, Option.getD_some, e1, List.drop_left, List.take_left, idxRev]
  cases firstConflict (A.getLast hne).tx.settle B <;> rfl

theorem firstConflict_eq (lastDate : Int) (B : List Delta) :
    firstConflict lastDate B =
      (B.find? (·.isLossOrSfl)).bind fun g =>
        if lastDate ≥ g.tx.settle - Gen.sflWindowBeforeDays then some (g.tx.settle - Gen.sflWindowBeforeDays)
        else none := by
  induction B with
  | nil => rfl
  | cons b B ih =>
    rw [firstConflict]
    cases hb : b.isLossOrSfl
    · simp only [List.find?_cons, hb, Bool.false_eq_true, if_false, ih]
    · simp only [List.find?_cons, hb, if_true, Option.bind_some]

theorem find_flagged_le {B : List Delta} (hs : DSorted B) {g : Delta}
    (hg : B.find? (·.isLossOrSfl) = some g) :
    g ∈ B ∧ ∀ e ∈ B, e.isLossOrSfl = true → g.tx.settle ≤ e.tx.settle := by
  obtain ⟨-, as, bs, rfl, has⟩ := List.find?_eq_some_iff_append.mp hg
  refine ⟨by simp, fun e he hfl => ?_⟩
  rcases List.mem_append.mp he with he | he
  · exact absurd hfl (by simpa using has e he)
  · rcases List.mem_cons.mp he with rfl | he
    · exact Int.le_refl _
    · exact (List.pairwise_cons.mp (List.pairwise_append.mp hs).2.1).1 e he

theorem firstConflict_some {lastDate : Int} {B : List Delta} (hs : DSorted B) {first : Int}
    (h : firstConflict lastDate B = some first) :
    (∃ g ∈ B, first = g.tx.settle - Gen.sflWindowBeforeDays) ∧
      ∀ e ∈ B, e.isLossOrSfl = true → first ≤ e.tx.settle - Gen.sflWindowBeforeDays := by
  rw [firstConflict_eq] at h
  cases hg : B.find? (·.isLossOrSfl) with
  | none =>
    rw [hg] at h
    cases h
  | some g =>
    rw [hg, Option.bind_some] at h
    obtain ⟨hgB, hle⟩ := find_flagged_le hs hg
    split at h
    · cases h
      exact ⟨⟨g, hgB, rfl⟩, fun e he hfl => by have := hle e he hfl; omega⟩
    · cases h

theorem firstConflict_none {lastDate : Int} {B : List Delta} (hs : DSorted B)
    (h : firstConflict lastDate B = none) :
    ∀ d ∈ B, d.isLossOrSfl = true → lastDate < d.tx.settle - Gen.sflWindowBeforeDays := by
  intro d hd hfl
  rw [firstConflict_eq] at h
  cases hg : B.find? (·.isLossOrSfl) with
  | none => exact absurd hfl (by simpa using List.find?_eq_none.mp hg d hd)
  | some g =>
    rw [hg, Option.bind_some] at h
    split at h
    · cases h
    · have := (find_flagged_le hs hg).2 d hd hfl
      omega

/-- the cut the backwards walk chooses -/
def cutOf (o : Option Nat) : Nat := match o with | some i => i + 1 | none => 0

@[simp] theorem cutOf_none : cutOf none = 0 := rfl

@[simp] theorem cutOf_some (i : Nat) : cutOf (some i) = i + 1 := rfl

/-- The backwards walk `latestSummarizable` over the deltas `A` (`R`, `A` reversed, is the induction
    variable); `F` is the period start the walk holds when it stops. -/
theorem walk_spec :
    ∀ (R A : List Delta), A = R.reverse → DSorted A → ∀ first : Int,
      (∀ d ∈ A, d.tx.settle - Gen.sflWindowBeforeDays ≤ first) →
      cutOf (latestSummarizable first (idxRev A)) ≤ A.length ∧
      ∃ F, F ≤ first ∧
        (∀ d ∈ A.take (cutOf (latestSummarizable first (idxRev A))), d.tx.settle < F) ∧
        (∀ e ∈ A.drop (cutOf (latestSummarizable first (idxRev A))),
          F ≤ e.tx.settle ∧ (e.isLossOrSfl = true → F ≤ e.tx.settle - Gen.sflWindowBeforeDays)) := by
  intro R
  induction R with
  | nil =>
    rintro _ rfl _ first _
    exact ⟨Nat.le_refl _, first, Int.le_refl _, by simp, by simp⟩
  | cons d R ih =>
    rintro _ rfl hs first hub
    rw [List.reverse_cons] at hs hub ⊢
    rw [idxRev_snoc, latestSummarizable]
    have hsA := List.pairwise_append.mp hs
    have hd : ∀ e ∈ R.reverse, e.tx.settle ≤ d.tx.settle := fun e he => hsA.2.2 e he d (by simp)
    by_cases hlt : d.tx.settle < first
    · -- the walk stops at once: everything is summarisable
      simp only [hlt, if_true, cutOf_some]
      have hlen : R.reverse.length + 1 = (R.reverse ++ [d]).length := by simp
      rw [hlen, List.take_length, List.drop_length]
      refine ⟨Nat.le_refl _, first, Int.le_refl _, fun e he => ?_, by simp⟩
      rcases List.mem_append.mp he with he | he
      · have := hd e he
        omega
      · cases List.mem_singleton.mp he
        exact hlt
    · simp only [hlt, if_false]
      generalize hf' : (if d.isLossOrSfl = true then d.tx.settle - Gen.sflWindowBeforeDays else first) = first'
      have hle : first' ≤ first := by
        rw [← hf']
        split
        · exact hub d (by simp)
        · exact Int.le_refl _
      obtain ⟨hk, F, hF, h1, h2⟩ := ih R.reverse rfl hsA.1 first' fun e he => by
        rw [← hf']
        split
        · have := hd e he
          omega
        · exact hub e (by simp [he])
      rw [List.take_append_of_le_length hk, List.drop_append_of_le_length hk]
      refine ⟨by simp only [List.length_append]; omega, F, by omega, h1, fun e he => ?_⟩
      rcases List.mem_append.mp he with he | he
      · exact h2 e he
      · cases List.mem_singleton.mp he
        exact ⟨by omega, fun hfl => by simpa only [← hf', hfl, if_true] using hF⟩

/-- `k` cuts `A` at the day `F`: the deltas before the cut settle before `F`, the others on or after
    it, and no flagged delta after the cut (those of `B` included) has its window start before `F`. -/
structure CutAt (A B : List Delta) (k : Nat) (F : Int) : Prop where
  le : k ≤ A.length
  before : ∀ d ∈ A.take k, d.tx.settle < F
  after : ∀ e ∈ A.drop k, F ≤ e.tx.settle
  flagged : ∀ d ∈ A.drop k ++ B, d.isLossOrSfl = true → F ≤ d.tx.settle - Gen.sflWindowBeforeDays

/-- What the range selection supplies, for deltas in date order that split at the summary date into
    `A` (not empty) and `B`: the last delta in range is the last of `A`, and a cut of `A` at some day. -/
theorem summaryRange_cut (latest : Int) {A B : List Delta} (hA : ∀ d ∈ A, d.tx.settle ≤ latest)
    (hB : ∀ d ∈ B, latest < d.tx.settle) (hne : A ≠ []) (hsA : DSorted A) (hsB : DSorted B)
    {r : SummaryRange} (hr : summaryRange latest (A ++ B) = some r) :
    r.lastInRange + 1 = A.length ∧ ∃ F, CutAt A B (cutOf r.lastSummarizable) F := by
  have e1 : A.length - 1 + 1 = A.length := Nat.sub_add_cancel (List.length_pos_iff.mpr hne)
  obtain rfl := Option.some.inj ((summaryRange_split latest A B hA hB hne).symm.trans hr)
  refine ⟨e1, ?_⟩
  cases hfc : firstConflict (A.getLast hne).tx.settle B with
  | none =>
    -- no conflict: everything in range is summarisable, `F` is the day after the last of `A`
    rw [cutOf_some, e1]
    refine ⟨(A.getLast hne).tx.settle + 1, Nat.le_refl _, fun d hd => ?_, by simp, fun d hd hfl => ?_⟩
    · have := pairwise_le_getLast (·.tx.settle) hne hsA d (List.mem_of_mem_take hd)
      omega
    · have := firstConflict_none hsB hfc d (by simpa using hd) hfl
      omega
  | some first =>
    obtain ⟨⟨g, hgm, hgf⟩, hfirstB⟩ := firstConflict_some hsB hfc
    obtain ⟨hk, F, hF, hcut1, hcut2⟩ := walk_spec A.reverse A (by simp) hsA first fun d hd => by
      have := hA d hd
      have := hB g hgm
      omega
    refine ⟨F, hk, hcut1, fun e he => (hcut2 e he).1, fun d hd hfl => ?_⟩
    rcases List.mem_append.mp hd with hd | hd
    · exact (hcut2 d hd).2 hfl
    · have := hfirstB d hd hfl
      omega

end Acb
