/-
  The example export of `Broker/Examples.lean`, converted once: the examples of `Props/C18.lean`
  evaluate their statements on this result instead of running the converter again.
-/
import AcbModel.Lemmas.QtLayout
import AcbModel.Broker.Examples
namespace Acb.Qt.Ex

def tfsa : Account := { typ := "Individual TFSA", num := "10000001" }

/-- What `recs` converts to: the BUY and the SELL; the FX rows of the BUY (implicit), of the FXT
    pair and of the dividend; no error (the deposit is ignored). -/
def conv : Conv :=
  { trades :=
      [ { security := "UCO", tradeDate := 20230104, settleDate := 20230106, tradeStr := d1, settleStr := d2,
          side := .buy, price := 10, shares := 5/2, commission := 99/20, currency := "USD",
          memo := "Questrade Individual TFSA 10000001", rate := none, registered := true, row := 2,
          account := tfsa, tiebreak := none },
        { security := "CCO", tradeDate := 20230106, settleDate := 20230106, tradeStr := d2, settleStr := d2,
          side := .sell, price := 10, shares := 8, commission := 1, currency := "CAD",
          memo := "Questrade Individual TFSA 10000001", rate := none, registered := true, row := 7,
          account := tfsa, tiebreak := none } ]
    fx :=
      [ { security := "USD.FX", tradeDate := 20230104, settleDate := 20230104, tradeStr := d1, settleStr := d1,
          side := .sell, price := 1, shares := 599/20, commission := 0, currency := "USD",
          memo := "Questrade Individual TFSA 10000001; from UCO Buy", rate := none, registered := true,
          row := 2, account := tfsa, tiebreak := some 2 },
        { security := "USD.FX", tradeDate := 20230104, settleDate := 20230104, tradeStr := d1, settleStr := d1,
          side := .buy, price := 1, shares := 100, commission := 0, currency := "USD",
          memo := "Questrade Individual TFSA 10000001; FXT", rate := some (13/10), registered := true,
          row := 5, account := tfsa, tiebreak := some 1 },
        { security := "USD.FX", tradeDate := 20230106, settleDate := 20230106, tradeStr := d2, settleStr := d2,
          side := .buy, price := 1, shares := 61/2, commission := 0, currency := "USD",
          memo := "Questrade Individual TFSA 10000001; DIV from UCO", rate := none, registered := true,
          row := 6, account := tfsa, tiebreak := some 1 } ]
    errors := [] }

theorem convertReaders_recs : convertReaders (recs.map Record.reader) = conv := by
  -- `Conv` has no `DecidableEq`: the three fields are compared one by one
  have h : ∀ c : Conv, c.trades = conv.trades ∧ c.fx = conv.fx ∧ c.errors = conv.errors → c = conv := by
    rintro ⟨_, _, _⟩ ⟨rfl, rfl, rfl⟩
    rfl
  exact h _ (by decide +kernel)

theorem layoutA : IsLayout usedNames recs sheetA := isLayout_of_check (by decide +kernel)

theorem layoutB : IsLayout usedNames recs sheetB := isLayout_of_check (by decide +kernel)

theorem sheetToTxs_sheetA : sheetToTxs sheetA = conv :=
  (sheetToTxs_of_layout layoutA).trans convertReaders_recs

theorem sheetToTxs_sheetB : sheetToTxs sheetB = conv :=
  (sheetToTxs_of_layout layoutB).trans convertReaders_recs

end Acb.Qt.Ex
