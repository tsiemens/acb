/-
  What `parseRow` (the cell-reading part of the row closure of `sheet_to_txs`) returns, by kind of
  row (C18: fields of trade rows, ignored activities, no silent loss).
-/
import AcbModel.Lemmas.QtFx
import AcbModel.Lemmas.Lists
namespace Acb.Qt

theorem ofOpt_ok {α : Type} {e : ErrKind} {x : Option α} {a : α} (h : ofOpt e x = .ok a) : x = some a := by
  cases x with
  | none => cases h
  | some b =>
    cases h
    rfl

/-- The fields of a trade row: every one is the cell under its named header, with the
    quantity and the commission in absolute value. -/
structure TradeFields (rd : Reader) (n : Nat) (t : BTx) : Prop where
  action : ∃ a note, rd.getStr "Action" = .ok a ∧ tradeSide (upper a) = some (t.side, note)
  tradeDate : rd.getStr "Transaction Date" = .ok t.tradeStr ∧ parseDate t.tradeStr = some t.tradeDate
  settleDate : rd.getStr "Settlement Date" = .ok t.settleStr ∧ parseDate t.settleStr = some t.settleDate
  account : rd.getStr "Account Type" = .ok t.account.typ ∧ rd.getStr "Account #" = .ok t.account.num
  affiliate : t.registered = isRegistered t.account.typ
  symbol : ∃ sym, rd.getStr "Symbol" = .ok sym ∧ sym ≠ "" ∧
    t.security = (match aliasOf sym with | some (al, _) => al | none => sym)
  quantity : ∃ q, rd.getDec "Quantity" = .ok q ∧ t.shares = rabs q
  price : rd.getDec "Price" = .ok t.price
  commission : ∃ c, rd.getDec "Commission" = .ok c ∧ t.commission = rabs c
  currency : ∃ cur, rd.getStr "Currency" = .ok cur ∧ t.currency = currencyOf cur
  row : t.row = n
  noRate : t.rate = none
  noTiebreak : t.tiebreak = none

theorem parseRow_ok {rd : Reader} {n : Nat} {act : RowAct} (h : parseRow rd n = .ok act) :
    ∃ a, rd.getStr "Action" = .ok a ∧
      match act with
      | .skip => Gen.qtIgnoredActions.contains (upper a) = true ∨
          (upper a = "DIV" ∧ ∃ cur, rd.getStr "Currency" = .ok cur ∧ upper cur ≠ "USD")
      | .fxt r => upper a = "FXT" ∧ rd.getDec "Net Amount" = .ok r.amount ∧
          ∃ cur, rd.getStr "Currency" = .ok cur ∧ r.currency = currencyOf cur
      | .income t => upper a = "DIV" ∧ FxRow t ∧
          ∃ amt, rd.getDec "Net Amount" = .ok amt ∧ signedShares t = amt
      | .trade t => TradeFields rd n t := by
  -- One pass over the reads in the order of the code.  `split at h` would re-simplify the whole
  -- remaining term at every branch, `rw [if_pos _]` does not; `with_reducible rfl` compares the
  -- fields of a row literal by projection only, where plain `rfl` makes the unifier evaluate
  -- `isRegistered` and `currencyOf` first.
  unfold parseRow at h
  obtain ⟨a, hA, h⟩ := Except.bind_eq_ok_iff.mp h
  refine ⟨a, hA, ?_⟩
  dsimp only at h
  by_cases hI : Gen.qtIgnoredActions.contains (upper a) = true
  · rw [if_pos hI] at h
    cases h
    exact Or.inl hI
  rw [if_neg hI] at h
  by_cases hAl : Gen.qtAllowedActions.contains (upper a) = true
  case neg =>
    rw [if_neg hAl] at h
    cases h
  rw [if_pos hAl] at h
  obtain ⟨tds, hTds, h⟩ := Except.bind_eq_ok_iff.mp h
  obtain ⟨td, hTd, h⟩ := Except.bind_eq_ok_iff.mp h
  obtain ⟨sds, hSds, h⟩ := Except.bind_eq_ok_iff.mp h
  obtain ⟨sd, hSd, h⟩ := Except.bind_eq_ok_iff.mp h
  obtain ⟨typ, hTyp, h⟩ := Except.bind_eq_ok_iff.mp h
  obtain ⟨num, hNum, h⟩ := Except.bind_eq_ok_iff.mp h
  by_cases hF : upper a = "FXT"
  · rw [if_pos hF] at h
    obtain ⟨cur, hCur, h⟩ := Except.bind_eq_ok_iff.mp h
    obtain ⟨amt, hAmt, h⟩ := Except.bind_eq_ok_iff.mp h
    cases h
    exact ⟨hF, hAmt, cur, hCur, by with_reducible rfl⟩
  rw [if_neg hF] at h
  obtain ⟨sym, hSym, h⟩ := Except.bind_eq_ok_iff.mp h
  by_cases hE : sym = ""
  · rw [if_pos hE] at h
    cases h
  rw [if_neg hE] at h
  by_cases hD : upper a = "DIV"
  · rw [if_pos hD] at h
    obtain ⟨cur, hCur, h⟩ := Except.bind_eq_ok_iff.mp h
    by_cases hU : upper cur = "USD"
    · rw [if_pos hU] at h
      obtain ⟨amt, hAmt, h⟩ := Except.bind_eq_ok_iff.mp h
      obtain ⟨t, ht, h⟩ := Except.map_eq_ok_iff.mp h
      cases h
      obtain ⟨_, rfl⟩ := fxTx_eq_ok_iff.mp ht
      exact ⟨hD, fxRowOf_FxRow nofun, amt, hAmt, signedShares_fxRowOf⟩
    · rw [if_neg hU] at h
      cases h
      exact Or.inr ⟨hD, cur, hCur, hU⟩
  rw [if_neg hD] at h
  cases hT : tradeSide (upper a) with
  | none =>
    rw [hT] at h
    cases h
  | some sn =>
    obtain ⟨side, note⟩ := sn
    rw [hT] at h
    obtain ⟨price, hPrice, h⟩ := Except.bind_eq_ok_iff.mp h
    obtain ⟨qty, hQty, h⟩ := Except.bind_eq_ok_iff.mp h
    obtain ⟨comm, hComm, h⟩ := Except.bind_eq_ok_iff.mp h
    obtain ⟨cur, hCur, h⟩ := Except.bind_eq_ok_iff.mp h
    cases h
    exact {
      action := ⟨a, note, hA, hT⟩
      tradeDate := ⟨hTds, ofOpt_ok hTd⟩
      settleDate := ⟨hSds, ofOpt_ok hSd⟩
      account := ⟨hTyp, hNum⟩
      affiliate := by with_reducible rfl
      symbol := ⟨sym, hSym, hE, rfl⟩
      quantity := ⟨qty, hQty, rfl⟩
      price := hPrice
      commission := ⟨comm, hComm, rfl⟩
      currency := ⟨cur, hCur, by with_reducible rfl⟩
      row := rfl
      noRate := rfl
      noTiebreak := rfl }

theorem parseRow_trade {rd : Reader} {n : Nat} {t : BTx} (h : parseRow rd n = .ok (.trade t)) :
    TradeFields rd n t :=
  let ⟨_, _, hf⟩ := parseRow_ok h
  hf

theorem parseRow_income {rd : Reader} {n : Nat} {t : BTx} (h : parseRow rd n = .ok (.income t)) :
    FxRow t ∧ ∃ amt, rd.getDec "Net Amount" = .ok amt ∧ signedShares t = amt :=
  let ⟨_, _, _, hf⟩ := parseRow_ok h
  hf

theorem parseRow_fxt {rd : Reader} {n : Nat} {r : FxtRow} (h : parseRow rd n = .ok (.fxt r)) :
    rd.getDec "Net Amount" = .ok r.amount :=
  let ⟨_, _, _, hf, _⟩ := parseRow_ok h
  hf

theorem tradeSide_cases {x : String} (h : (tradeSide x).isSome = true) :
    x = "BUY" ∨ x = "SELL" ∨ x = "DIS" ∨ x = "LIQ" := by
  unfold tradeSide at h
  grind

theorem parseRow_trade_action {rd : Reader} {n : Nat} {a : String}
    (hA : rd.getStr "Action" = .ok a) (hT : (tradeSide (upper a)).isSome = true) :
    (∃ t, parseRow rd n = .ok (.trade t)) ∨ (∃ e, parseRow rd n = .error e) := by
  have hno : Gen.qtIgnoredActions.contains (upper a) = false ∧ upper a ≠ "DIV" ∧ upper a ≠ "FXT" := by
    rcases tradeSide_cases hT with h | h | h | h <;> rw [h] <;> decide
  cases hp : parseRow rd n with
  | error e => exact Or.inr ⟨e, rfl⟩
  | ok act =>
    obtain ⟨a', hA', h⟩ := parseRow_ok hp
    obtain rfl : a = a' := Except.ok.inj (hA.symm.trans hA')
    cases act with
    | trade t => exact Or.inl ⟨t, rfl⟩
    | skip =>
      rcases h with h | ⟨h, _⟩
      · rw [hno.1] at h
        cases h
      · exact absurd h hno.2.1
    | income t => exact absurd h.1 hno.2.1
    | fxt r => exact absurd h.1 hno.2.2

theorem parseRow_ignored {rd : Reader} {n : Nat} {a : String}
    (hA : rd.getStr "Action" = .ok a) (hI : Gen.qtIgnoredActions.contains (upper a) = true) :
    parseRow rd n = .ok .skip :=
  Except.bind_eq_ok_iff.mpr ⟨a, hA, if_pos hI⟩

end Acb.Qt
