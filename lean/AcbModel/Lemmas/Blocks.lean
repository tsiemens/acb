/-
  Money conservation (C03): the delta list of an error-free run is a sequence of blocks
  (one input row followed by the SfLA rows generated for it), each of which is balanced unless the
  sale is flagged "potentially over-applied".
-/
import AcbModel.Lemmas.Adjust
import AcbModel.Lemmas.Conserve
namespace Acb
open Spec

def overFlag (d : Delta) : Bool := match d.sfl with | some i => i.over | none => false

inductive Blocks : List Delta → Prop
  | nil : Blocks []
  | block (d : Delta) (inj rest : List Delta) :
      ¬ IsSfla d.tx → (∀ x ∈ inj, IsSfla x.tx) →
      (overFlag d = true ∨ imbalance d + imbalances inj = 0) →
      Blocks rest → Blocks (d :: (inj ++ rest))

theorem imbalances_of_txs {ds : List Delta} (h : ∀ d ∈ ds, IsSfla d.tx) :
    imbalances ds = - sumAmounts (ds.map (·.tx)) := by
  induction ds with
  | nil => exact Rat.neg_zero.symm
  | cons d ds ih =>
    obtain ⟨sh, ps, hd⟩ := h d (by simp)
    rw [imbalances_cons, List.map_cons, sumAmounts_cons, ih fun x hx => h x (by simp [hx])]
    simp only [imbalance, txAmount, hd]
    exact Rat.neg_add.symm

theorem arm_block {t : Tracker} (hb : ∀ a, 0 ≤ t.bal a) {tx : Tx} {pre : Status} {past future : List Tx}
    {o : ArmOut} (hc : C3Row tx) (hp : ∀ x ∈ past, C3Ctx x) (hf : ∀ x ∈ future, C3Ctx x)
    (h : arm t tx pre past future = .ok o) :
    overFlag ⟨tx, pre, o.post, o.gain, o.sfl⟩ = true ∨
      imbalance ⟨tx, pre, o.post, o.gain, o.sfl⟩ = sumAmounts o.inj := by
  obtain ⟨hv, _, hnm⟩ := hc
  unfold Tx.Valid at hv
  unfold NoManual at hnm
  rcases arm_sfl_cases h with ⟨h1, h2⟩ | ⟨sh, px, comm, rate, crate, spec, _, info, adj, hact, _, _, _, _, hd, rfl⟩
  · right
    rw [h2]
    unfold imbalance
    simp only [h1, sflLoss]
    cases hact : tx.act with
    | sfla =>
      rw [hact] at hnm
      cases hnm
    | sell => exact Rat.neg_zero
    | _ => rfl
  · rw [hact] at hnm hv
    cases spec with
    | some _ => cases hnm
    | none =>
      rcases deltaSflInfo_balanced hb hv.1 hp hf hd with hov | hsum
      · exact .inl (by simp [overFlag, sellOut, hov])
      · exact .inr (by simp [imbalance, hact, sellOut, sflLoss, hsum])

theorem C3Row.ctx {tx : Tx} (h : C3Row tx) : C3Ctx tx := ⟨h.1, h.2.1⟩

theorem C3Row.not_isSfla {tx : Tx} (h : C3Row tx) : ¬ IsSfla tx := by
  rintro ⟨sh, ps, hact⟩
  have := h.2.2
  simp [NoManual, hact] at this

/-- The block structure along a run whose pending rows are generated rows `s` (of the sale that
    heads the current block) followed by input rows `m`: the deltas of `s`, then blocks. -/
theorem Runs.blocks {t : Tracker} {past p : List Tx} {ds : List Delta} {e : RunEnd}
    (h : Runs [] t past p ds e) {bs : Books} (s m : List Tx) (hp : p = s ++ m)
    (hs : ∀ x ∈ s, IsSfla x ∧ C3Ctx x) (hm : ∀ x ∈ m, C3Row x) (hpast : ∀ x ∈ past, C3Ctx x)
    (hi : WfInv t bs) (he : e.failure = none) :
    ∃ ds1 ds2, ds = ds1 ++ ds2 ∧ ds1.map (·.tx) = s ∧ Blocks ds2 := by
  induction h generalizing bs s m with
  | done =>
    obtain ⟨rfl, rfl⟩ := List.append_eq_nil_iff.mp hp.symm
    exact ⟨[], [], rfl, rfl, .nil⟩
  | fail => cases he
  | @step t past x p d t' inj ds e hstep _ ih =>
    obtain ⟨hcx, hcp⟩ : C3Ctx x ∧ ∀ y ∈ p, C3Ctx y := List.forall_mem_cons.mp
      (hp ▸ List.forall_mem_append.mpr ⟨fun y hy => (hs y hy).2, fun y hy => (hm y hy).ctx⟩)
    simp only [List.append_nil] at hstep
    obtain ⟨hdok, hi', hginj⟩ := stepRow_wf hi hcx.1 hstep
    obtain ⟨_, o, ho, _, rfl, rfl⟩ := stepRow_ok_iff.mp hstep
    have hpast' : ∀ y ∈ x :: past, C3Ctx y := List.forall_mem_cons.mpr ⟨hcx, hpast⟩
    cases s with
    | cons y s' =>
      obtain ⟨rfl, rfl⟩ := List.cons.inj hp.symm
      have hinj : o.inj = [] := by rw [arm_plain (hs y (by simp)).1.isSell ho]
      obtain ⟨ds1, ds2, rfl, h1, h2⟩ := ih s' m (by simp [hinj]) (fun z hz => hs z (by simp [hz])) hm hpast' hi' he
      exact ⟨_ :: ds1, ds2, rfl, by simp [h1], h2⟩
    | nil =>
      cases m with
      | nil => cases hp
      | cons y m' =>
        obtain ⟨rfl, rfl⟩ := List.cons.inj hp.symm
        have hrow := hm y (by simp)
        have hsfl : ∀ z ∈ o.inj, IsSfla z ∧ C3Ctx z := by
          intro z hz
          obtain ⟨a, amt, ha, _, rfl⟩ := stepRow_inj_row hstep hz
          exact ⟨⟨_, _, rfl⟩, hginj _ hz, ha⟩
        obtain ⟨ds1, ds2, rfl, h1, h2⟩ := ih o.inj m' rfl hsfl (fun z hz => hm z (by simp [hz])) hpast' hi' he
        obtain ⟨_, U, hw⟩ := hi
        have hblock := arm_block (fun a => hw.bal_nonneg a) hrow hpast hcp ho
        have hds1 : ∀ z ∈ ds1, IsSfla z.tx := fun z hz => (hsfl _ (h1 ▸ List.mem_map_of_mem hz)).1
        refine ⟨[], _ :: (ds1 ++ ds2), rfl, rfl, .block _ ds1 ds2 hrow.not_isSfla hds1 ?_ h2⟩
        rw [imbalances_of_txs hds1, h1]
        exact hblock.imp_right fun hbal => by rw [hbal]; exact Rat.add_neg_cancel _

/-- The deltas of an error-free run (all affiliates non-registered, no manual superficial-loss
    entries) are a sequence of balanced blocks. -/
theorem deltaLoop_blocks {bs : Books} :
    ∀ (future : List Tx) (t : Tracker) (past : List Tx) (acc : List Delta),
    (∀ x ∈ future, C3Row x) → (∀ x ∈ past, C3Ctx x) → WfInv t bs →
    (deltaLoop t past acc future).2 = none →
    ∃ out, (deltaLoop t past acc future).1 = acc ++ out ∧ Blocks out := by
  intro future t past acc hc hp hi hnone
  obtain ⟨ds, e, hr, he⟩ := deltaLoop_runs future t past acc
  rw [he] at hnone ⊢
  obtain ⟨ds1, ds2, rfl, h1, h2⟩ := hr.blocks [] future rfl (by simp) hc hp hi hnone
  cases List.map_eq_nil_iff.mp h1
  exact ⟨ds2, rfl, h2⟩

/-- At every block boundary of a block-structured list with no over-applied flag so far, the
    imbalances cancel. -/
theorem Blocks.balanced {ds : List Delta} (hb : Blocks ds) :
    ∀ (pre suf : List Delta), ds = pre ++ suf →
      (suf = [] ∨ ∃ x xs, suf = x :: xs ∧ ¬ IsSfla x.tx) →
      (∀ d ∈ pre, overFlag d = false) → imbalances pre = 0 := by
  induction hb with
  | nil =>
    intro pre suf h _ _
    rw [(List.append_eq_nil_iff.mp h.symm).1, imbalances_nil]
  | block d inj rest hd hinj hbal _ ih =>
    intro pre suf h hsuf hov
    cases pre with
    | nil => exact imbalances_nil
    | cons p pre =>
      obtain ⟨rfl, h'⟩ := List.cons.inj h
      obtain ⟨a, rfl, rfl⟩ := append_cut (P := fun x : Delta => IsSfla x.tx) h'.symm hinj hsuf
      have hz := ih a suf rfl hsuf (fun x hx => hov x (by simp [hx]))
      have hb1 := hbal.resolve_left (by simp [hov d (by simp)])
      rw [imbalances_cons, imbalances_append, ← Rat.add_assoc, hb1, hz, Rat.add_zero]

end Acb
