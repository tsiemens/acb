/-
  Split neutrality (C15): the vocabulary.  A row is restated for an `f`-fold split: share quantities
  × f, per-share amounts ÷ f; a status or tracker is scaled: share figures × f, money unchanged.
  Under `f > 0` every decision of the computation is the same and every result is the scaled one.
-/
import AcbModel.Lemmas.ScanStep
import AcbModel.Lemmas.Tracker
namespace Acb

def restateAct (f : Rat) : Action → Action
  | .buy sh px comm rate crate => .buy (sh * f) (px / f) comm rate crate
  | .sell sh px comm rate crate spec => .sell (sh * f) (px / f) comm rate crate spec
  | .roc ps rate => .roc (ps / f) rate
  | .sfla sh ps => .sfla (sh * f) (ps / f)
  | .split post pre io => .split post pre io

def restateTx (f : Rat) (t : Tx) : Tx := { t with act := restateAct f t.act }

def scaleStatus (f : Rat) (s : Status) : Status := { shares := s.shares * f, all := s.all * f, acb := s.acb }

theorem restateTx_act (f : Rat) (x : Tx) : (restateTx f x).act = restateAct f x.act := rfl

theorem restateTx_aff (f : Rat) (x : Tx) : (restateTx f x).aff = x.aff := rfl

theorem restateTx_one (x : Tx) : restateTx 1 x = x := by
  obtain ⟨_, _, _, _, act⟩ := x
  cases act <;> simp [restateTx, restateAct, Rat.mul_one] <;> grind

theorem scale_inj {f : Rat} (hf0 : f ≠ 0) {a b : Rat} : a * f = b * f ↔ a = b :=
  ⟨fun h => by rw [← Rat.mul_div_cancel hf0 (a := a), h, Rat.mul_div_cancel hf0], fun h => by rw [h]⟩

theorem scale_sub (a b f : Rat) : a * f - b * f = (a - b) * f := by grind

theorem add_mul_scale (a s k f : Rat) : a * f + s * f * k = (a + s * k) * f := by grind

theorem sub_mul_scale (a s k f : Rat) : a * f - s * f * k = (a - s * k) * f := by grind

theorem restate_amount {f : Rat} (hf0 : f ≠ 0) (p s : Rat) : p / f * (s * f) = p * s := by grind

theorem restate_amount' {f : Rat} (hf0 : f ≠ 0) (s p : Rat) : s * f * (p / f) = s * p := by
  rw [Rat.mul_comm, restate_amount hf0, Rat.mul_comm]

theorem scaled_ratio_eq {f : Rat} (hf0 : f ≠ 0) (n d : Rat) : n * f / (d * f) = n / d := by
  by_cases hd : d = 0
  · subst hd
    simp [Rat.div_def]
  · grind

theorem rmin_scale {f : Rat} (hf : 0 < f) (a b : Rat) : rmin (a * f) (b * f) = rmin a b * f := by
  unfold rmin
  simp only [Rat.mul_lt_mul_right hf]
  split <;> rfl

theorem min3_scale {f : Rat} (hf : 0 < f) (a b c : Rat) : min3 (a * f) (b * f) (c * f) = min3 a b c * f := by
  unfold min3
  rw [rmin_scale hf, rmin_scale hf]

structure TrackerScaled (f : Rat) (t t' : Tracker) : Prop where
  pre : ∀ a, t'.nextPre a = scaleStatus f (t.nextPre a)
  postAll : t'.latestPostAll = t.latestPostAll * f

theorem TrackerScaled.bal {f : Rat} {t t' : Tracker} (h : TrackerScaled f t t') (a : Aff) :
    t'.bal a = t.bal a * f := by
  rw [← nextPre_shares, h.pre a, ← nextPre_shares t a]
  rfl

theorem TrackerScaled.all {f : Rat} {t t' : Tracker} (h : TrackerScaled f t t') :
    t'.latestAll = t.latestAll * f := by
  rw [← nextPre_all t' default, h.pre, ← nextPre_all t default]
  rfl

theorem TrackerScaled.acbOf {f : Rat} {t t' : Tracker} (h : TrackerScaled f t t') (a : Aff) :
    t'.acbOf a = t.acbOf a := by
  rw [← nextPre_acb, h.pre a, ← nextPre_acb t a]
  rfl

theorem TrackerScaled.of_obs {f : Rat} {t t' : Tracker} (hb : ∀ a, t'.bal a = t.bal a * f)
    (hall : t'.latestAll = t.latestAll * f) (hacb : ∀ a, t'.acbOf a = t.acbOf a)
    (hpost : t'.latestPostAll = t.latestPostAll * f) : TrackerScaled f t t' :=
  ⟨fun a => by rw [nextPre_eq, nextPre_eq, hb, hall, hacb]; rfl, hpost⟩

def IsSflaRow (x : Tx) : Prop := ∃ sh ps, x.act = .sfla sh ps

/-- the row of the run with the split that corresponds to row `x`: the restated input row, or the
    very same generated SfLA row (share count 1, same amount) -/
def RowRel (f : Rat) (x x' : Tx) : Prop := x' = restateTx f x ∨ (IsSflaRow x ∧ x' = x)

theorem RowRel.aff {f : Rat} {x x' : Tx} (h : RowRel f x x') : x'.aff = x.aff := by
  rcases h with rfl | ⟨_, rfl⟩ <;> rfl

theorem RowRel.settle {f : Rat} {x x' : Tx} (h : RowRel f x x') : x'.settle = x.settle := by
  rcases h with rfl | ⟨_, rfl⟩ <;> rfl

inductive RowsRel (f : Rat) : List Tx → List Tx → Prop
  | nil : RowsRel f [] []
  | restated (x : Tx) {xs xs' : List Tx} : RowsRel f xs xs' → RowsRel f (x :: xs) (restateTx f x :: xs')
  | sfla (x : Tx) {xs xs' : List Tx} : IsSflaRow x → RowsRel f xs xs' → RowsRel f (x :: xs) (x :: xs')

theorem RowsRel.forall2 {f : Rat} {a a' : List Tx} (h : RowsRel f a a') : Forall2 (RowRel f) a a' := by
  induction h with
  | nil => exact .nil
  | restated x _ ih => exact .cons (.inl rfl) ih
  | sfla x hx _ ih => exact .cons (.inr ⟨hx, rfl⟩) ih

end Acb
