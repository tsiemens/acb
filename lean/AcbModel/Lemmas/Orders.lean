/-
  A hash order `σ` only rearranges (`IsOrder`), so two orders give permutations of one another
  (`order_perm`); every place of the model that walks a hash container either sorts what it gets,
  tests it with `any`/`isEmpty`, or adds it up, and each of these is the same on permutations.
-/
import AcbModel.App.Orders
import AcbModel.Lemmas.Costs
import AcbModel.Lemmas.Gains
namespace Acb.Orders
open Acb.Costs Acb.Gains Acb.Splits

theorem expand_congr {σ σ' : List Nat → List Nat} (h : IsOrder σ) (h' : IsOrder σ')
    (dflt : Nat) (txs : List STx) : expand σ dflt txs = expand σ' dflt txs := by
  have hp := order_perm h h' (nonGlobalAffiliates txs)
  have hs : splitAffiliates σ dflt txs = splitAffiliates σ' dflt txs := by
    unfold splitAffiliates
    simp only [hp.isEmpty_eq]
    split
    · rfl
    · exact sortNats_congr hp
  unfold expand
  rw [hs]

theorem calcTotalCosts_congr (yearOf : Int → Int) (rows : List Row)
    {σ σ' : List Nat → List Nat} {τ τ' : List Int → List Int}
    (hσ : IsOrder σ) (hτ : IsOrder τ) (hσ' : IsOrder σ') (hτ' : IsOrder τ') :
    calcTotalCosts yearOf rows σ τ = calcTotalCosts yearOf rows σ' τ' := by
  rw [calcTotalCosts_eq, calcTotalCosts_eq]
  refine congrArg (Except.map · (loop1 rows St.init)) (funext fun st => ?_)
  have hd : sortDays (τ st.days) = sortDays (τ' st.days) := sortDays_congr (order_perm hτ hτ' _)
  have hf : fillDay st (secWalk σ) = fillDay st (secWalk σ') := by
    funext f d
    exact congrArg (List.foldl (fillSec st d) f) (sortNats_congr (order_perm hσ hσ' st.secs))
  simp only [loop2, yearly, hd, hf]

theorem aggTable_congr {gs : List CG} (hwf : ∀ g ∈ gs, g.WF)
    {σ σ' : List CG → List CG} {ρ ρ' : List Int → List Int}
    (hσ : IsOrder σ) (hρ : IsOrder ρ) (hσ' : IsOrder σ') (hρ' : IsOrder ρ') (full : Bool) :
    aggTable full (aggGains σ ρ gs) = aggTable full (aggGains σ' ρ' gs) := by
  have hy : (aggGains σ ρ gs).sortedYears = (aggGains σ' ρ' gs).sortedYears :=
    sortDays_eq_of_mem_iff (aggGains_wf σ ρ gs).nodup (aggGains_wf σ' ρ' gs).nodup
      (fun y => by rw [aggGains_mem_years hσ hρ, aggGains_mem_years hσ' hρ'])
  have hb : (aggGains σ ρ gs).byYear = (aggGains σ' ρ' gs).byYear :=
    funext fun y => by rw [aggGains_byYear hσ hρ hwf, aggGains_byYear hσ' hρ' hwf]
  unfold aggTable
  rw [hy, hb, aggGains_total hσ, aggGains_total hσ']

theorem resultOf_congr {o o' : Orders} (ho : o.Ok) (ho' : o'.Ok) (dflt : Nat) (ledger : Nat → List STx → SecOut)
    (inp : Inputs) : resultOf o dflt ledger inp = resultOf o' dflt ledger inp := by
  funext s
  unfold resultOf
  rw [expand_congr ho.affs ho'.affs]

theorem printOrder_congr {o o' : Orders} (ho : o.Ok) (ho' : o'.Ok) (inp : Inputs) :
    printOrder o inp = printOrder o' inp := sortNats_congr (order_perm ho.secs ho'.secs _)

theorem any_secs_congr {o o' : Orders} (ho : o.Ok) (ho' : o'.Ok) (keys : List Nat) (f : Nat → Bool) :
    (o.secs keys).any f = (o'.secs keys).any f := (order_perm ho.secs ho'.secs keys).any_eq

theorem appOutput_congr {o o' : Orders} (ho : o.Ok) (ho' : o'.Ok) (yearOf : Int → Int) (dflt : Nat)
    (ledger : Nat → List STx → SecOut) (full totalCosts : Bool) (inp : Inputs) :
    appOutput o yearOf dflt ledger full totalCosts inp = appOutput o' yearOf dflt ledger full totalCosts inp := by
  have hres := resultOf_congr ho ho' dflt ledger inp
  have hpo := printOrder_congr ho ho' inp
  have hrows : allCostRows o dflt ledger inp = allCostRows o' dflt ledger inp := by
    unfold allCostRows
    rw [hres, hpo]
  have hagg := aggTable_congr
    (completed_wf yearOf ((printOrder o' inp).map (fun s => (resultOf o' dflt ledger inp s).toResult)))
    id_isOrder ho.years id_isOrder ho'.years full
  have hcosts := calcTotalCosts_congr yearOf (allCostRows o' dflt ledger inp) ho.secSet ho.days ho'.secSet ho'.days
  unfold appOutput
  simp only [hres, hpo, any_secs_congr ho ho', hagg, hrows, hcosts]

end Acb.Orders
