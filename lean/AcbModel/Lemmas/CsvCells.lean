import AcbModel.Lemmas.CsvDec
namespace Acb.Csv

theorem beq_mul_ten_pow (m k : Nat) : (m * 10 ^ k == 0) = (m == 0) := by
  rw [Bool.eq_iff_iff]
  simp [Nat.mul_eq_zero]

theorem Dec.Same.isPos_eq {a b : Dec} (h : a.Same b) : a.isPos = b.isPos :=
  h.congr (fun _ _ _ _ => by simp only [Dec.isPos, bne, beq_mul_ten_pow])

theorem Dec.Same.isGez_eq {a b : Dec} (h : a.Same b) : a.isGez = b.isGez :=
  h.congr (fun _ _ _ _ => by simp only [Dec.isGez, beq_mul_ten_pow])

theorem Dec.Same.isLez_eq {a b : Dec} (h : a.Same b) : a.isLez = b.isLez :=
  h.congr (fun _ _ _ _ => by simp only [Dec.isLez, beq_mul_ten_pow])

theorem Dec.Same.isOne_eq {a b : Dec} (h : a.Same b) : a.isOne = b.isOne := by
  refine h.congr (fun neg m s k => ?_)
  simp only [Dec.isOne]
  congr 1
  rw [Bool.eq_iff_iff, Nat.pow_add]
  simp only [beq_iff_eq]
  exact ⟨Nat.eq_of_mul_eq_mul_right (Nat.pow_pos (by omega)), fun h => by rw [h]⟩

theorem Dec.Same.isInteger_eq {a b : Dec} (h : a.Same b) : a.isInteger = b.isInteger := by
  refine h.congr (fun neg m s k => ?_)
  simp only [Dec.isInteger]
  rw [Nat.pow_add, Nat.mul_mod_mul_right, beq_mul_ten_pow]

theorem Dec.Same.absLt_eq {a a' b b' : Dec} (ha : a'.Same a) (hb : b'.Same b) :
    a'.absLt b' = a.absLt b := by
  -- on either side, both members of `x.mant * 10 ^ y.scale < y.mant * 10 ^ x.scale` gain the
  -- factor `10 ^ k`
  refine (ha.congr (f := (·.absLt b')) (fun neg m s k => ?_)).trans
    (hb.congr (f := a.absLt) (fun neg m s k => ?_)) <;>
  · simp only [Dec.absLt]
    rw [Nat.mul_right_comm, Nat.pow_add, ← Nat.mul_assoc]
    exact decide_eq_decide.2 (Nat.mul_lt_mul_right (Nat.pow_pos (by omega)))

theorem fracDigits4 (n : Nat) : fracDigits 4 n =
    [digitChar (n / 10 / 10 / 10 % 10), digitChar (n / 10 / 10 % 10), digitChar (n / 10 % 10),
      digitChar (n % 10)] := by
  simp [fracDigits]

theorem fracDigits2 (n : Nat) : fracDigits 2 n = [digitChar (n / 10 % 10), digitChar (n % 10)] := by
  simp [fracDigits]

theorem date_render_parse (t : Date) (h : t.valid = true) : parseDate t.render = some t := by
  obtain ⟨y, m, d⟩ := t
  have hv := h
  simp only [Date.valid, Bool.and_eq_true, decide_eq_true_eq] at hv
  have hy : ofDigits (fracDigits 4 y) = y := by
    rw [ofDigits_fracDigits]
    exact Nat.mod_eq_of_lt (by omega)
  have hdim : daysInMonth y m ≤ 31 := by
    unfold daysInMonth
    split
    · split <;> omega
    · split <;> omega
  have hm : ofDigits (fracDigits 2 m) = m := by
    rw [ofDigits_fracDigits]
    exact Nat.mod_eq_of_lt (by omega)
  have hd : ofDigits (fracDigits 2 d) = d := by
    rw [ofDigits_fracDigits]
    exact Nat.mod_eq_of_lt (by omega)
  rw [fracDigits4] at hy
  rw [fracDigits2] at hm hd
  unfold Date.render parseDate
  rw [fracDigits4, fracDigits2, fracDigits2]
  simp only [List.cons_append, List.nil_append, isDigit_digitChar, Bool.and_self, if_true, hy, hm, hd, h]

theorem fracDigits_no_ws (k n : Nat) : ∀ c ∈ fracDigits k n, isWs c = false :=
  fun c h => isDigit_not_ws (fracDigits_all_digit k n c h)

theorem date_render_no_ws (t : Date) : ∀ c ∈ t.render, isWs c = false := by
  simp only [Date.render, List.mem_append, List.mem_cons]
  rintro c ((h | rfl | h) | rfl | h) <;> first | exact fracDigits_no_ws _ _ c h | decide

theorem date_render_ne_nil (t : Date) : t.render ≠ [] := by
  unfold Date.render
  rw [fracDigits4]
  simp

theorem act_render_table (a : Act) :
    parseAct a.render = some a ∧ (∀ c ∈ a.render, isWs c = false) ∧ a.render ≠ [] := by
  have h : ∀ a ∈ [Act.buy, .sell, .roc, .sfla, .split],
      parseAct a.render = some a ∧ (∀ c ∈ a.render, isWs c = false) ∧ a.render ≠ [] := by
    decide +kernel
  exact h a (by cases a <;> decide)

theorem act_render_parse (a : Act) : parseAct a.render = some a := (act_render_table a).1
theorem act_render_no_ws (a : Act) : ∀ c ∈ a.render, isWs c = false := (act_render_table a).2.1
theorem act_render_ne_nil (a : Act) : a.render ≠ [] := (act_render_table a).2.2

theorem colOfName_name (c : Col) : colOfName (trim (lower c.name)) = some c := by
  have h : ∀ c ∈ allCols, colOfName (trim (lower c.name)) = some c := by decide +kernel
  exact h c (by cases c <;> decide)

theorem isDigitOrDot_not_ws {c : Char} (h : isDigitOrDot c = true) : isWs c = false := by
  unfold isDigitOrDot at h
  simp only [Bool.or_eq_true, beq_iff_eq] at h
  rcases h with h | h
  · exact isDigit_not_ws h
  · subst h
    decide

theorem display_chars (d : Dec) (q : Option Nat) :
    ∀ c ∈ d.display q, (c = '-' ∧ d.neg = true) ∨ isDigitOrDot c = true := by
  rw [display_eq_some, display_some]
  simp only [List.mem_append]
  rintro c ((h | h) | h)
  · by_cases hn : d.neg = true
    · rw [if_pos hn, List.mem_singleton] at h
      exact .inl ⟨h, hn⟩
    · rw [if_neg hn] at h
      cases h
  · exact .inr (by simp [isDigitOrDot, wholeDigits_all_digit _ c h])
  · by_cases hf : shownFrac d (q.getD d.scale) = []
    · rw [if_pos hf] at h
      cases h
    · rw [if_neg hf, List.mem_cons] at h
      rcases h with rfl | h
      · exact .inr (by decide)
      · exact .inr (by simp [isDigitOrDot, shownFrac_all_digit d _ c h])

theorem display_no_ws (d : Dec) (q : Option Nat) : ∀ c ∈ d.display q, isWs c = false := by
  intro c hc
  rcases display_chars d q c hc with ⟨rfl, _⟩ | h
  · decide
  · exact isDigitOrDot_not_ws h

theorem display_chars_of_not_neg (d : Dec) (q : Option Nat) (hn : d.neg = false) :
    ∀ c ∈ d.display q, isDigitOrDot c = true :=
  fun c hc => (display_chars d q c hc).resolve_left (by simp [hn])

theorem display_ne_nil (d : Dec) (q : Option Nat) : d.display q ≠ [] := by
  rw [display_eq_some, display_some]
  intro h
  simp only [List.append_eq_nil_iff] at h
  exact wholeDigits_ne_nil _ h.1.2

theorem sfl_render_parse (v : Dec × Bool) (h : sflValid v = true) :
    ∃ v', parseSfl (renderSfl v) = .ok v' ∧ v'.1.Same v.1 ∧ v'.2 = v.2 := by
  obtain ⟨d, f⟩ := v
  simp only [sflValid, Bool.and_eq_true] at h
  obtain ⟨hl, hr⟩ := h
  obtain ⟨d', hp, hs⟩ := dec_render_parse d 2 (by omega) hr
  have hlez : d'.isLez = true := by
    rw [hs.isLez_eq]
    exact hl
  unfold parseSfl renderSfl
  cases f
  · simp only [Bool.false_eq_true, if_false, List.append_nil]
    have : ((d.toStringMinPrecision 2).getLast? == some '!') = false := by
      rw [beq_eq_false_iff_ne, toStringMinPrecision_eq_display]
      intro h
      -- `'!'` is neither `'-'` nor a digit nor `'.'`
      rcases display_chars d _ _ (List.mem_of_mem_getLast? h) with ⟨h, _⟩ | h <;> revert h <;> decide
    simp only [this, Bool.false_eq_true, if_false, hp, hlez, if_true]
    exact ⟨_, rfl, hs, rfl⟩
  · simp only [if_true]
    have h1 : ((d.toStringMinPrecision 2 ++ ['!']).getLast? == some '!') = true := by simp
    simp only [h1, if_true, List.dropLast_concat, hp, hlez]
    exact ⟨_, rfl, hs, rfl⟩

theorem renderSfl_no_ws (v : Dec × Bool) : ∀ c ∈ renderSfl v, isWs c = false := by
  intro c hc
  simp only [renderSfl, toStringMinPrecision_eq_display, List.mem_append] at hc
  rcases hc with h | h
  · exact display_no_ws _ _ c h
  · split at h
    · simp at h
      subst h
      decide
    · simp at h

theorem renderSfl_ne_nil (v : Dec × Bool) : renderSfl v ≠ [] := by
  rw [renderSfl, toStringMinPrecision_eq_display]
  intro h
  simp only [List.append_eq_nil_iff] at h
  exact display_ne_nil _ _ h.1

end Acb.Csv
