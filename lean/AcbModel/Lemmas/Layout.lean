/-
  Layout of the input (C07).  A successful read is told row by row; the reader sees a table only
  through `readTxs_congr`, and under it a row is its (header cell, row cell) pairs.
-/
import AcbModel.App.Layout
import AcbModel.Lemmas.CsvTable
import AcbModel.Lemmas.Lists
namespace Acb.Csv

/-- the row `p.1`, read with index `p.2` under the columns `cols`, is the transaction `t` -/
def RowReads (cols : List (Option Col)) (p : List Str × Nat) (t : Tx) : Prop :=
  p.1.length = cols.length ∧
    ∃ c, csvTxOfValues (fun col => lookupCell col cols p.1) p.2 = .ok c ∧ Tx.ofCsv c = .ok t

theorem readRows_txsOfCsv_ok_iff {cols : List (Option Col)} {rows : List (List Str)} {i : Nat}
    {ts : List Tx} : (∃ cs, readRows cols rows i = .ok cs ∧ txsOfCsv cs = .ok ts) ↔
      Forall2 (RowReads cols) (rows.zipIdx i) ts := by
  induction rows generalizing i ts with
  | nil => simp [readRows, txsOfCsv, forall2_nil_left_iff, eq_comm]
  | cons r rs ih =>
    rw [List.zipIdx_cons, forall2_cons_left_iff]
    simp only [← ih, RowReads, readRows_cons_ok_iff]
    constructor
    · rintro ⟨_, ⟨hlen, c, cs, hc, hcs, rfl⟩, h⟩
      obtain ⟨t, ts', ht, hts, rfl⟩ := txsOfCsv_cons_ok_iff.1 h
      exact ⟨t, ts', rfl, ⟨hlen, c, hc, ht⟩, cs, hcs, hts⟩
    · rintro ⟨t, ts', rfl, ⟨hlen, c, hc, ht⟩, cs, hcs, hts⟩
      exact ⟨c :: cs, ⟨hlen, c, cs, hc, hcs, rfl⟩, txsOfCsv_cons_ok_iff.2 ⟨t, ts', ht, hts, rfl⟩⟩

theorem readTxs_ok_iff {t : Table} {i : Nat} {ts : List Tx} : readTxs t i = .ok ts ↔
    ¬ (some Col.settleDate ∈ mapHeader t.header ∧ some Col.legacyDate ∈ mapHeader t.header) ∧
      Forall2 (RowReads (mapHeader t.header)) (t.rows.zipIdx i) ts := by
  rw [← readRows_txsOfCsv_ok_iff, readTxs_eq]
  by_cases hb : some Col.settleDate ∈ mapHeader t.header ∧ some Col.legacyDate ∈ mapHeader t.header
  · simp [hb]
  · cases h : readRows (mapHeader t.header) t.rows i <;> simp [hb, bind, Except.bind]

theorem readFiles_cons_ok_iff {f : Table} {fs : List Table} {i : Nat} {ts : List Tx} :
    readFiles (f :: fs) i = .ok ts ↔
      ∃ a b, readTxs f i = .ok a ∧ readFiles fs (i + a.length) = .ok b ∧ ts = a ++ b := by
  rw [readFiles]
  cases readTxs f i with
  | error e => simp
  | ok a =>
    simp only [Except.ok.injEq, exists_and_left, exists_eq_left']
    cases readFiles fs (i + a.length) <;> simp [eq_comm]

theorem readFiles_chunks_ok_iff (hdr : List Str)
    (hd : ¬ (some Col.settleDate ∈ mapHeader hdr ∧ some Col.legacyDate ∈ mapHeader hdr))
    (chunks : List (List (List Str))) (i : Nat) (ts : List Tx) :
    readFiles (chunks.map (fun rows => (⟨hdr, rows⟩ : Table))) i = .ok ts ↔
      Forall2 (RowReads (mapHeader hdr)) (chunks.flatten.zipIdx i) ts := by
  induction chunks generalizing i ts with
  | nil => simp [readFiles, forall2_nil_left_iff, eq_comm]
  | cons c rest ih =>
    simp only [List.map_cons, readFiles_cons_ok_iff, readTxs_ok_iff, ih, List.flatten_cons, List.zipIdx_append,
      forall2_append_left_iff, hd, not_false_eq_true, true_and]
    -- the next file starts at the index after the rows of `c`: as many as were read
    have hl : ∀ {a}, Forall2 (RowReads (mapHeader hdr)) (c.zipIdx i) a → c.length = a.length :=
      fun h => by rw [← h.length_eq, List.length_zipIdx]
    constructor
    · rintro ⟨a, b, ha, hb, rfl⟩
      exact ⟨a, b, rfl, ha, hl ha ▸ hb⟩
    · rintro ⟨a, b, rfl, ha, hb⟩
      exact ⟨a, b, ha, hl ha ▸ hb, rfl⟩

theorem csvTxOfValues_index {get : Col → Option Str} {i : Nat} {c : CsvTx}
    (h : csvTxOfValues get i = .ok c) : c.readIndex = i := by
  unfold csvTxOfValues at h
  split at h
  · cases h
  · simp only [Except.ok.injEq] at h; subst h; rfl

theorem ofCsv_index {c : CsvTx} {t : Tx} (h : Tx.ofCsv c = .ok t) : t.readIndex = c.readIndex := by
  unfold Tx.ofCsv at h
  -- the only `.ok` leaf copies `c.readIndex`
  repeat' split at h
  all_goals (cases h; try rfl)

/-- positions: element `k` carries index `i + k` -/
def IndexedFrom (i : Nat) : List Tx → Prop
  | [] => True
  | t :: ts => t.readIndex = i ∧ IndexedFrom (i + 1) ts

theorem IndexedFrom.append {i : Nat} {a b : List Tx} (ha : IndexedFrom i a) (hb : IndexedFrom (i + a.length) b) :
    IndexedFrom i (a ++ b) := by
  induction a generalizing i with
  | nil => simpa using hb
  | cons t ts ih =>
    refine ⟨ha.1, ih ha.2 ?_⟩
    have : i + 1 + ts.length = i + (t :: ts).length := by simp; omega
    rw [this]; exact hb

theorem indexedFrom_of_reads {cols : List (Option Col)} {rows : List (List Str)} {i : Nat} {ts : List Tx}
    (h : Forall2 (RowReads cols) (rows.zipIdx i) ts) : IndexedFrom i ts := by
  induction rows generalizing i ts with
  | nil => cases h; trivial
  | cons r rs ih =>
    obtain ⟨t, ts', rfl, ⟨_, c, hc, ht⟩, hts⟩ := forall2_cons_left_iff.1 h
    exact ⟨(ofCsv_index ht).trans (csvTxOfValues_index hc), ih hts⟩

/-- The reader sees a table only through the recognised columns its header names, the length
    check of each row, and the cell it finds under each column. -/
theorem readTxs_congr {hdr' hdr : List Str} {rows' rows : List (List Str)}
    (hcols : ∀ c, some c ∈ mapHeader hdr' ↔ some c ∈ mapHeader hdr)
    (hrows : Forall2 (fun r' r => (r'.length = hdr'.length ↔ r.length = hdr.length) ∧
      ∀ c, lookupCell c (mapHeader hdr') r' = lookupCell c (mapHeader hdr) r) rows' rows) (i : Nat) :
    readTxs ⟨hdr', rows'⟩ i = readTxs ⟨hdr, rows⟩ i := by
  have hr : readRows (mapHeader hdr') rows' i = readRows (mapHeader hdr) rows i := by
    induction hrows generalizing i with
    | nil => rfl
    | cons hab _ ih => simp only [readRows, mapHeader_length, hab.1, funext hab.2, ih]
  simp only [readTxs_eq, hcols, hr]

/-- `lookupCell` on the zipped row -/
def lookupZ (c : Col) : List (Option Col × Str) → Option Str
  | [] => none
  | p :: r =>
    match lookupZ c r with
    | some x => some x
    | none => if p.1 = some c ∧ ¬ (trim p.2).isEmpty then some (trim p.2) else none

theorem lookupZ_cons (c : Col) (p : Option Col × Str) (r : List (Option Col × Str)) :
    lookupZ c (p :: r) = (lookupZ c r).or (if p.1 = some c then net p.2 else none) := by
  rw [lookupZ, ite_and_not_blank]
  cases lookupZ c r <;> rfl

theorem lookupCell_eq_lookupZ (c : Col) (cols : List (Option Col)) (cells : List Str) :
    lookupCell c cols cells = lookupZ c (cols.zip cells) := by
  induction cols generalizing cells with
  | nil => cases cells <;> rfl
  | cons oc r ih =>
    cases cells with
    | nil => rfl
    | cons v vs => rw [lookupCell_cons, List.zip_cons_cons, lookupZ_cons, ih]

def hit (c : Col) (p : Option Col × Str) : Prop := p.1 = some c ∧ ¬ (trim p.2).isEmpty

theorem lookupZ_none_of_no_col (c : Col) (z : List (Option Col × Str)) (h : some c ∉ z.map (·.1)) :
    lookupZ c z = none := by
  induction z with
  | nil => rfl
  | cons p r ih =>
    simp only [List.map_cons, List.mem_cons, not_or] at h
    rw [lookupZ_cons, ih h.2, if_neg (Ne.symm h.1)]
    rfl

/-- `hd`: no recognised column is named twice. -/
theorem lookupZ_perm (c : Col) {z1 z2 : List (Option Col × Str)} (hp : z1.Perm z2)
    (hd : ((z1.map Prod.fst).filterMap id).Nodup) : lookupZ c z1 = lookupZ c z2 := by
  induction hp with
  | nil => rfl
  | cons x _ ih =>
    rw [lookupZ_cons, lookupZ_cons, ih (hd.sublist (((List.sublist_cons_self x _).map _).filterMap _))]
  | swap x y l =>
    -- `x` and `y` cannot both carry column `c`
    have hxy : ¬ (x.1 = some c ∧ y.1 = some c) := by
      rintro ⟨hx, hy⟩
      simp [hx, hy] at hd
    simp only [lookupZ_cons, Option.or_assoc]
    by_cases hx : x.1 = some c
    · rw [if_neg (fun hy => hxy ⟨hx, hy⟩), Option.none_or, Option.or_none]
    · rw [if_neg hx, Option.none_or, Option.or_none]
  | trans h1 _ ih1 ih2 => exact (ih1 hd).trans (ih2 (hd.perm ((h1.map _).filterMap _)))

/-- One row under a permutation of its columns; the row-order lemma behind `C07_row_perm` is
`process_eq_canonical`. -/
theorem row_perm (hdr hdr' : List Str) (r r' : List Str) (hlen : r.length = hdr.length)
    (hp : (hdr'.zip r').Perm (hdr.zip r)) (hd : DistinctRecognised hdr) (c : Col) :
    lookupCell c (mapHeader hdr') r' = lookupCell c (mapHeader hdr) r := by
  have hdz : ((((mapHeader hdr).zip r).map Prod.fst).filterMap id).Nodup := by
    rwa [List.map_fst_zip (by simp [mapHeader_length, hlen])]
  rw [lookupCell_eq_lookupZ, lookupCell_eq_lookupZ]
  unfold mapHeader at hdz ⊢
  rw [List.zip_map_left] at hdz ⊢
  rw [List.zip_map_left]
  exact (lookupZ_perm c (hp.map _).symm hdz).symm

/-- rows of a re-arranged table: same length conditions, and every row is the same multiset of
    (header cell, row cell) pairs -/
inductive SameColumns (hdr' hdr : List Str) : List (List Str) → List (List Str) → Prop
  | nil : SameColumns hdr' hdr [] []
  | cons {r' r rs' rs} : r'.length = hdr'.length → r.length = hdr.length →
      (hdr'.zip r').Perm (hdr.zip r) → SameColumns hdr' hdr rs' rs → SameColumns hdr' hdr (r' :: rs') (r :: rs)

theorem SameColumns.rows_agree {hdr' hdr : List Str} {rows' rows : List (List Str)}
    (hd : DistinctRecognised hdr) (h : SameColumns hdr' hdr rows' rows) :
    Forall2 (fun r' r => (r'.length = hdr'.length ↔ r.length = hdr.length) ∧
      ∀ c, lookupCell c (mapHeader hdr') r' = lookupCell c (mapHeader hdr) r) rows' rows := by
  induction h with
  | nil => exact .nil
  | cons h1 h2 hp _ ih => exact .cons ⟨by simp [h1, h2], row_perm hdr hdr' _ _ h2 hp hd⟩ ih

theorem lookupZ_insert_none (c : Col) (a b : List (Option Col × Str)) (v : Str) :
    lookupZ c (a ++ (none, v) :: b) = lookupZ c (a ++ b) := by
  induction a with
  | nil => simp [lookupZ_cons]
  | cons p r ih => simp only [List.cons_append, lookupZ_cons, ih]

theorem insertAt_perm {α} (k : Nat) (x : α) (l : List α) : (insertAt k x l).Perm (x :: l) := by
  unfold insertAt
  exact List.perm_middle.trans (by rw [List.take_append_drop])

theorem zip_insertAt {α β} (k : Nat) (x : α) (y : β) (l1 : List α) (l2 : List β)
    (h1 : k ≤ l1.length) (h2 : k ≤ l2.length) :
    (insertAt k x l1).zip (insertAt k y l2) = insertAt k (x, y) (l1.zip l2) := by
  unfold insertAt
  rw [List.zip_append (by simp [List.length_take, Nat.min_eq_left h1, Nat.min_eq_left h2])]
  simp only [List.zip_eq_zipWith, List.take_zipWith, List.drop_zipWith, List.zipWith_cons_cons]

theorem mapHeader_insertAt (k : Nat) (h : Str) (hdr : List Str) :
    mapHeader (insertAt k h hdr) = insertAt k (colOfName (sanitize h)) (mapHeader hdr) := by
  unfold mapHeader insertAt sanitize
  simp [List.map_take, List.map_drop]

theorem lookupCell_insert (c : Col) (k : Nat) (h v : Str) (hdr r : List Str)
    (hun : colOfName (sanitize h) = none) (h1 : k ≤ hdr.length) (h2 : r.length = hdr.length) :
    lookupCell c (mapHeader (insertAt k h hdr)) (insertAt k v r) = lookupCell c (mapHeader hdr) r := by
  rw [lookupCell_eq_lookupZ, lookupCell_eq_lookupZ, mapHeader_insertAt, hun,
    zip_insertAt k none v _ _ (by simpa [mapHeader_length] using h1) (by omega)]
  unfold insertAt
  rw [lookupZ_insert_none, List.take_append_drop]

theorem sanitize_case_pad (w1 core w2 name : Str) (h1 : ∀ c ∈ w1, isWs c = true)
    (h2 : ∀ c ∈ w2, isWs c = true) (hcase : lower core = lower name) : sanitize (w1 ++ core ++ w2) = sanitize name := by
  unfold sanitize
  rw [lower_append, lower_append, lower_ws w1 h1, lower_ws w2 h2, hcase, trim_pad h1 h2]

end Acb.Csv
