import AcbModel.App.Pipeline
import AcbModel.Lemmas.Isort
namespace Acb

theorem rowLe_iff {a b : PRow} :
    rowLe a b = true ↔ a.tx.settle < b.tx.settle ∨ (a.tx.settle = b.tx.settle ∧ a.tx.idx ≤ b.tx.idx) := by
  simp [rowLe]

theorem rowLe_total (a b : PRow) : rowLe a b = true ∨ rowLe b a = true := by
  simp only [rowLe_iff]
  omega

theorem rowLe_trans {a b c : PRow} (h1 : rowLe a b = true) (h2 : rowLe b c = true) : rowLe a c = true := by
  simp only [rowLe_iff] at *
  omega

theorem sortRows_eq (l : List PRow) : sortRows l = isort rowLe l :=
  foldr_eq_isort (ins := insertRow) (le := rowLe) (fun _ => rfl) (fun _ _ _ => rfl) l

def RowsSorted : List PRow → Prop
  | [] => True
  | x :: xs => (∀ y ∈ xs, rowLe x y = true) ∧ RowsSorted xs

theorem rowsSorted_iff {l : List PRow} : RowsSorted l ↔ l.Pairwise (fun x y => rowLe x y = true) := by
  induction l with
  | nil => simp [RowsSorted]
  | cons x xs ih => rw [RowsSorted, ih, List.pairwise_cons]

theorem mem_sortRows {x : PRow} {l : List PRow} : x ∈ sortRows l ↔ x ∈ l := by
  rw [sortRows_eq]; exact mem_isort

theorem sortRows_sorted (l : List PRow) : RowsSorted (sortRows l) := by
  rw [sortRows_eq]
  exact rowsSorted_iff.mpr (isort_pairwise (le := rowLe) (fun _ _ _ => rowLe_trans) rowLe_total l)

theorem RowsSorted.filter {l : List PRow} (h : RowsSorted l) (p : PRow → Bool) : RowsSorted (l.filter p) :=
  rowsSorted_iff.mpr ((rowsSorted_iff.mp h).filter p)

theorem RowsSorted.settle {l : List PRow} (h : RowsSorted l) :
    (l.map (·.tx)).Pairwise (fun a b => a.settle ≤ b.settle) := by
  rw [List.pairwise_map]
  exact (rowsSorted_iff.mp h).imp fun hab => by have := rowLe_iff.mp hab; omega

theorem rowsOf_sortRows (s : Nat) (l : List PRow) : rowsOf s (sortRows l) = sortRows (rowsOf s l) := by
  rw [rowsOf, sortRows_eq, filter_isort (le := rowLe) (fun _ _ _ => rowLe_trans) rowLe_total, ← sortRows_eq]
  rfl

theorem mem_rowsOf {s : Nat} {l : List PRow} {r : PRow} : r ∈ rowsOf s l ↔ r ∈ l ∧ r.sec = s := by
  simp [rowsOf]

theorem mem_secsOf {s : Nat} {l : List PRow} : s ∈ secsOf l ↔ ∃ r ∈ l, r.sec = s := by
  simp [secsOf, List.mem_eraseDups]

end Acb
