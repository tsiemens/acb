/-
  The ordering of `BrokerTx` (C18): the comparator as coded is the lexicographic order on
  (settlement date, settlement date-and-time text, tiebreak with `None` first, row number);
  hence a total preorder, so that the stable `Vec::sort` has exactly one possible result.
-/
import AcbModel.Broker.Spec
namespace Acb.Qt
open Std

/-- the comparator, written as a lexicographic combination -/
def lexCmp : BTx → BTx → Ordering :=
  compareLex (compareOn (·.settleDate))
    (compareLex (compareOn (·.settleStr))
      (compareLex (compareOn (·.tiebreak)) (compareOn (·.row))))

instance : TransCmp lexCmp := by
  unfold lexCmp
  infer_instance

theorem cmpBTx_eq_lex (a b : BTx) : cmpBTx a b = lexCmp a b := by
  unfold cmpBTx lexCmp compareLex compareOn
  -- key by key: `simp` closes the goals `lt` and `gt`, the goal `eq` goes on to the next key
  cases h1 : compare a.settleDate b.settleDate <;> simp [Ordering.then]
  cases h2 : compare a.settleStr b.settleStr <;> simp
  cases ha : a.tiebreak <;> cases hb : b.tiebreak <;> simp [compare, compareOfLessAndEq]
  rename_i x y
  by_cases hlt : x < y
  · simp [hlt]
  · by_cases heq : x = y <;> simp [hlt, heq]

theorem cmpBTx_swap (a b : BTx) : cmpBTx a b = (cmpBTx b a).swap := by
  rw [cmpBTx_eq_lex, cmpBTx_eq_lex]
  exact OrientedCmp.eq_swap

theorem leBTx_trans (a b c : BTx) (h1 : leBTx a b = true) (h2 : leBTx b c = true) : leBTx a c = true := by
  unfold leBTx at *
  rw [cmpBTx_eq_lex] at *
  exact TransCmp.isLE_trans h1 h2

theorem leBTx_total (a b : BTx) : (leBTx a b || leBTx b a) = true := by
  unfold leBTx
  rw [cmpBTx_swap a b]
  cases cmpBTx b a <;> simp [Ordering.swap, Ordering.isLE]

theorem leBTx_refl (a : BTx) : leBTx a a = true := by
  have := leBTx_total a a
  simpa using this

theorem cmpBTx_eq_iff (a b : BTx) :
    cmpBTx a b = .eq ↔ a.settleDate = b.settleDate ∧ a.settleStr = b.settleStr ∧
      a.tiebreak = b.tiebreak ∧ a.row = b.row := by
  rw [cmpBTx_eq_lex]
  simp only [lexCmp, compareLex, compareOn, Ordering.then_eq_eq, compare_eq_iff_eq]

theorem sortTxs_sorted (txs : List BTx) : (sortTxs txs).Pairwise (fun a b => leBTx a b = true) :=
  List.pairwise_mergeSort (le := leBTx) leBTx_trans leBTx_total txs

theorem sortTxs_perm (txs : List BTx) : (sortTxs txs).Perm txs := List.mergeSort_perm txs leBTx

end Acb.Qt
