/-
  Relations lifted to lists (`Forall2`: pointwise), to results (`ExceptRel`: the same error, or
  related values) and to options (`OptRel`): the vocabulary of the two-run arguments (scaling, same
  observables, erased declarations).
-/
namespace Acb

/-- Pointwise relation of two lists (core Lean has no `List.Forall₂`). -/
inductive Forall2 {α β} (R : α → β → Prop) : List α → List β → Prop
  | nil : Forall2 R [] []
  | cons {a b l1 l2} : R a b → Forall2 R l1 l2 → Forall2 R (a :: l1) (b :: l2)

theorem Forall2.append {α β} {R : α → β → Prop} {a b : List α} {a' b' : List β}
    (h1 : Forall2 R a a') (h2 : Forall2 R b b') : Forall2 R (a ++ b) (a' ++ b') := by
  induction h1 with
  | nil => simpa using h2
  | cons hd _ ih => exact .cons hd ih

theorem Forall2.map_right {α β} {R : α → β → Prop} {g : α → β} (h : ∀ a, R a (g a)) :
    ∀ l : List α, Forall2 R l (l.map g)
  | [] => .nil
  | a :: l => .cons (h a) (Forall2.map_right h l)

theorem Forall2.refl_of {α} {R : α → α → Prop} {l : List α} (h : ∀ a ∈ l, R a a) : Forall2 R l l := by
  induction l with
  | nil => exact .nil
  | cons a l ih => exact .cons (h a (by simp)) (ih (fun b hb => h b (by simp [hb])))

theorem Forall2.and_left {α β : Type} {R : α → β → Prop} {P : α → Prop} {l : List α} {l' : List β}
    (h : Forall2 R l l') (hP : ∀ a ∈ l, P a) : Forall2 (fun a b => P a ∧ R a b) l l' := by
  induction h with
  | nil => exact .nil
  | cons hr _ ih => exact .cons ⟨hP _ (by simp), hr⟩ (ih fun a ha => hP a (by simp [ha]))

def ExceptRel {ε α β : Type} (R : α → β → Prop) : Except ε α → Except ε β → Prop
  | .ok a, .ok b => R a b
  | .error e, .error e' => e = e'
  | _, _ => False

section
variable {ε α β γ δ : Type} {R : α → β → Prop}

@[simp] theorem exceptRel_ok {a : α} {b : β} : ExceptRel (ε := ε) R (.ok a) (.ok b) ↔ R a b := Iff.rfl
@[simp] theorem exceptRel_error {e e' : ε} : ExceptRel R (.error e) (.error e') ↔ e = e' := Iff.rfl
@[simp] theorem exceptRel_ok_error {a : α} {e : ε} : ¬ ExceptRel R (.ok a) (.error e) := id
@[simp] theorem exceptRel_error_ok {b : β} {e : ε} : ¬ ExceptRel R (.error e) (.ok b) := id

theorem ExceptRel.cases {x : Except ε α} {y : Except ε β} (h : ExceptRel R x y) :
    (∃ e, x = .error e ∧ y = .error e) ∨ ∃ a b, x = .ok a ∧ y = .ok b ∧ R a b := by
  cases x <;> cases y <;> simp_all

theorem ExceptRel.mono {S : α → β → Prop} {x : Except ε α} {y : Except ε β} (h : ExceptRel R x y)
    (hRS : ∀ a b, R a b → S a b) : ExceptRel S x y := by
  rcases h.cases with ⟨e, rfl, rfl⟩ | ⟨a, b, rfl, rfl, hr⟩
  · rfl
  · exact hRS a b hr

end

/-- a comparison decided once for both sides -/
theorem exceptRel_ite {ε α β : Type} {R : α → β → Prop} {c : Prop} [Decidable c]
    {a b : Except ε α} {a' b' : Except ε β} (h1 : c → ExceptRel R a a') (h2 : ¬ c → ExceptRel R b b') :
    ExceptRel R (if c then a else b) (if c then a' else b') := by
  by_cases hc : c
  · simpa only [hc, if_true] using h1 hc
  · simpa only [hc, if_false] using h2 hc

/-- case analysis on two related results wherever they stand in the goal: the same error on both
    sides, or values that are related -/
@[elab_as_elim]
theorem ExceptRel.elim {ε α β : Type} {R : α → β → Prop} {motive : Except ε α → Except ε β → Prop}
    {x : Except ε α} {y : Except ε β} (h : ExceptRel R x y)
    (error : ∀ e, motive (.error e) (.error e)) (ok : ∀ a b, R a b → motive (.ok a) (.ok b)) : motive x y := by
  rcases h.cases with ⟨e, rfl, rfl⟩ | ⟨a, b, rfl, rfl, hab⟩
  · exact error e
  · exact ok a b hab

theorem ExceptRel.bind {ε α β γ δ : Type} {R : α → β → Prop} {S : γ → δ → Prop} {x : Except ε α} {y : Except ε β}
    {g : α → Except ε γ} {g' : β → Except ε δ} (h : ExceptRel R x y)
    (hg : ∀ a b, R a b → ExceptRel S (g a) (g' b)) : ExceptRel S (x.bind g) (y.bind g') :=
  h.elim (fun _ => rfl) hg

theorem ExceptRel.map {ε α β γ δ : Type} {R : α → β → Prop} {S : γ → δ → Prop} {x : Except ε α} {y : Except ε β}
    {g : α → γ} {g' : β → δ} (h : ExceptRel R x y) (hg : ∀ a b, R a b → S (g a) (g' b)) :
    ExceptRel S (x.map g) (y.map g') :=
  h.elim (fun _ => rfl) hg

def OptRel {α β : Type} (R : α → β → Prop) : Option α → Option β → Prop
  | some a, some b => R a b
  | none, none => True
  | _, _ => False

section
variable {α β : Type} {R : α → β → Prop}
@[simp] theorem optRel_some {a : α} {b : β} : OptRel R (some a) (some b) ↔ R a b := Iff.rfl
@[simp] theorem optRel_none : OptRel R none none := trivial
@[simp] theorem optRel_some_none {a : α} : ¬ OptRel R (some a) none := id
@[simp] theorem optRel_none_some {b : β} : ¬ OptRel R none (some b) := id

theorem OptRel.cases {x : Option α} {y : Option β} (h : OptRel R x y) :
    (x = none ∧ y = none) ∨ ∃ a b, x = some a ∧ y = some b ∧ R a b := by
  cases x <;> cases y <;> simp_all
end

end Acb
