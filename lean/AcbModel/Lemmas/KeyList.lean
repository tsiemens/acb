import AcbModel.App.CostsSpec
import AcbModel.Lemmas.Isort
import AcbModel.Lemmas.SumOver
namespace Acb

namespace Costs

theorem sortDays_perm (l : List Int) : (sortDays l).Perm l := isort_perm _ _

theorem mem_sortDays {l : List Int} {d : Int} : d ∈ sortDays l ↔ d ∈ l := (sortDays_perm l).mem_iff

theorem sortDays_congr {l₁ l₂ : List Int} (h : l₁.Perm l₂) : sortDays l₁ = sortDays l₂ := isort_eq_of_perm h

theorem sortDays_eq_of_mem_iff {l₁ l₂ : List Int} (h₁ : l₁.Nodup) (h₂ : l₂.Nodup) (hm : ∀ x, x ∈ l₁ ↔ x ∈ l₂) :
    sortDays l₁ = sortDays l₂ := sortDays_congr ((List.perm_ext_iff_of_nodup h₁ h₂).mpr hm)

theorem sortDays_strict {l : List Int} (h : l.Nodup) : (sortDays l).Pairwise (fun a b => a < b) := by
  have h2 : (sortDays l).Nodup := (sortDays_perm l).nodup_iff.mpr h
  exact ((isort_le_pairwise l).and h2).imp (fun ⟨a, b⟩ => by omega)

theorem sortNats_perm (l : List Nat) : (sortNats l).Perm l := isort_perm _ _

theorem mem_sortNats {l : List Nat} {s : Nat} : s ∈ sortNats l ↔ s ∈ l := (sortNats_perm l).mem_iff

theorem sortNats_congr {l₁ l₂ : List Nat} (h : l₁.Perm l₂) : sortNats l₁ = sortNats l₂ := isort_eq_of_perm h

theorem secWalk_isOrder {σ : List Nat → List Nat} (h : IsOrder σ) : IsOrder (secWalk σ) :=
  fun l => (sortNats_perm (σ l)).trans (h l)

theorem addKey_of_mem {α : Type} [DecidableEq α] {l : List α} {k : α} (h : k ∈ l) : addKey l k = l := if_pos h

theorem addKey_of_not_mem {α : Type} [DecidableEq α] {l : List α} {k : α} (h : k ∉ l) : addKey l k = l ++ [k] :=
  if_neg h

theorem mem_addKey {α : Type} [DecidableEq α] (l : List α) (k x : α) : x ∈ addKey l k ↔ x ∈ l ∨ x = k := by
  by_cases hk : k ∈ l
  · rw [addKey_of_mem hk]
    exact ⟨Or.inl, fun h => h.elim id (fun e => e ▸ hk)⟩
  · simp [addKey_of_not_mem hk]

theorem addKey_nodup {α : Type} [DecidableEq α] {l : List α} (h : l.Nodup) (k : α) : (addKey l k).Nodup := by
  by_cases hk : k ∈ l
  · rwa [addKey_of_mem hk]
  · rw [addKey_of_not_mem hk, List.nodup_append]
    exact ⟨h, by simp, fun a ha b hb e => hk (by simp_all)⟩

theorem mem_addKey_snoc {α κ : Type} [DecidableEq κ] (key : α → κ) {l : List κ} {L : List α}
    (h : ∀ k, k ∈ l ↔ ∃ b ∈ L, key b = k) (a : α) (k : κ) :
    k ∈ addKey l (key a) ↔ ∃ b ∈ L ++ [a], key b = k := by
  simp only [mem_addKey, h, List.mem_append, List.mem_singleton, or_and_right, exists_or, exists_eq_left]
  exact or_congr_right eq_comm

theorem mem_dedup {α : Type} [DecidableEq α] (l : List α) (x : α) : x ∈ dedup l ↔ x ∈ l := by
  induction l with
  | nil => simp [dedup]
  | cons a as ih =>
    unfold dedup
    split
    · rename_i ha
      rw [ih]
      exact ⟨List.mem_cons_of_mem a, fun h => (List.mem_cons.mp h).elim (fun e => e ▸ ha) id⟩
    · simp [ih]

theorem sumOver_addKey {κ : Type} [DecidableEq κ] {l : List κ} (hn : l.Nodup) (k : κ) {f g : κ → Rat}
    (hg : ∀ x, x ≠ k → g x = f x) (h0 : k ∉ l → f k = 0) :
    sumOver (addKey l k) g = sumOver l f - f k + g k := by
  by_cases hk : k ∈ l
  · rw [addKey_of_mem hk, sumOver_point hn hk hg]
  · rw [addKey_of_not_mem hk, sumOver_append, sumOver_congr (fun y hy => hg y (fun e => hk (e ▸ hy))), h0 hk]
    simp [Rat.sub_eq_add_neg, Rat.add_zero]

end Costs

namespace Orders
open Costs

theorem order_perm {α : Type} {σ σ' : List α → List α} (h : IsOrder σ) (h' : IsOrder σ') (l : List α) :
    (σ l).Perm (σ' l) := (h l).trans (h' l).symm

theorem reverse_isOrder {α : Type} : IsOrder (List.reverse : List α → List α) := fun l => List.reverse_perm l
theorem id_isOrder {α : Type} : IsOrder (id : List α → List α) := fun l => List.Perm.refl l

end Orders
end Acb
