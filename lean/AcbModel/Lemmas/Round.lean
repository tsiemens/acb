/- `roundCent` is `Decimal::round_dp_with_strategy(2, MidpointAwayFromZero)`. -/
import AcbModel.Basic.Num
import AcbModel.Lemmas.Rats
namespace Acb

theorem pow10_two : pow10 2 = 100 := by decide +kernel

theorem roundCent_of_nonneg {x : Rat} (h : 0 ≤ x) :
    roundCent x = ((x * 100 + 1/2).floor : Rat) / 100 := by
  simp [roundCent, roundHalfAway, h, pow10_two]

theorem roundCent_of_neg {x : Rat} (h : ¬ 0 ≤ x) :
    roundCent x = -(((-x) * 100 + 1/2).floor : Rat) / 100 := by
  simp [roundCent, roundHalfAway, h, pow10_two]

theorem roundCent_neg (x : Rat) : roundCent (-x) = - roundCent x := by
  by_cases h : 0 ≤ x
  · by_cases hn : 0 ≤ -x
    · obtain rfl := Rat.le_antisymm (neg_nonneg_iff.mp hn) h
      decide +kernel
    · rw [roundCent_of_neg hn, roundCent_of_nonneg h, Rat.neg_neg, neg_div]
  · have hn : 0 ≤ -x := neg_nonneg_iff.mpr (Rat.le_of_lt (Rat.not_le.mp h))
    rw [roundCent_of_nonneg hn, roundCent_of_neg h, neg_div, Rat.neg_neg]

theorem roundCent_close (x : Rat) : rabs (roundCent x - x) ≤ 1 / 200 := by
  -- on `y ≥ 0` by the two bounds of `floor`; `x < 0` is `y = -x` with the two bounds exchanged
  have key : ∀ y : Rat, 0 ≤ y → roundCent y - y ≤ 1/200 ∧ -(roundCent y - y) ≤ 1/200 := by
    intro y hy
    have h1 := Rat.floor_le (y * 100 + 1/2)
    have h2 := Rat.lt_floor_add_one (y * 100 + 1/2)
    rw [roundCent_of_nonneg hy]
    grind
  by_cases h : 0 ≤ x
  · exact rabs_le (key x h).1 (key x h).2
  · have e : roundCent (-x) - -x = -(roundCent x - x) := by
      rw [roundCent_neg, Rat.neg_sub, Rat.sub_eq_add_neg, Rat.neg_neg, Rat.add_comm, Rat.sub_eq_add_neg]
    have := key (-x) (neg_nonneg_iff.mpr (Rat.le_of_lt (Rat.not_le.mp h)))
    rw [e, Rat.neg_neg] at this
    exact rabs_le this.2 this.1

theorem roundCent_grid (x : Rat) : ∃ n : Int, roundCent x * 100 = (n : Rat) := by
  have h100 : (100 : Rat) ≠ 0 := by decide
  by_cases h : 0 ≤ x
  · exact ⟨_, by rw [roundCent_of_nonneg h, Rat.div_mul_cancel h100]⟩
  · exact ⟨-_, by rw [roundCent_of_neg h, Rat.div_mul_cancel h100, Rat.intCast_neg]⟩

theorem roundCent_tie_pos (k : Int) (hk : 0 ≤ k) : roundCent (((k : Rat) + 1/2) / 100) = ((k : Rat) + 1) / 100 := by
  have h : (0 : Rat) ≤ ((k : Rat) + 1/2) / 100 := by
    exact Rat.mul_nonneg (Rat.add_nonneg (Rat.intCast_nonneg.mpr hk) (by decide +kernel)) (by decide +kernel)
  have e : ((k : Rat) + 1/2) / 100 * 100 + 1/2 = ((k + 1 : Int) : Rat) := by
    rw [Rat.div_mul_cancel (by decide), Rat.add_assoc, Rat.intCast_add,
      show (1/2 + 1/2 : Rat) = ((1 : Int) : Rat) by decide +kernel]
  rw [roundCent_of_nonneg h, e, Rat.floor_intCast, Rat.intCast_add]
  rfl

theorem roundCent_tie_neg (k : Int) (hk : 0 ≤ k) :
    roundCent (-(((k : Rat) + 1/2) / 100)) = -(((k : Rat) + 1) / 100) := by
  rw [roundCent_neg, roundCent_tie_pos k hk]

end Acb
