/-
  The normal form every pipeline-level theorem starts from: a security's result is the split-validation
  error, or the ledger of `secTxs` (its sorted rows, each split for all affiliates replaced by one split
  per affiliate of `splitAffs`).
-/
import AcbModel.Lemmas.SortRows
import AcbModel.Lemmas.Lists
import AcbModel.Lemmas.ScanStep
import AcbModel.Ledger.Valid
namespace Acb

def affLe (a b : Aff) : Bool := a.key ≤ b.key

theorem sortAffs_eq (l : List Aff) : sortAffs l = isort affLe l :=
  foldr_eq_isort (ins := insertAffByKey) (le := affLe) (fun _ => rfl)
    (fun a b bs => by simp only [insertAffByKey, affLe, decide_eq_true_eq]) l

theorem sortAffs_perm (l : List Aff) : (sortAffs l).Perm l := by
  rw [sortAffs_eq]
  exact isort_perm affLe l

theorem sortAffs_sorted (l : List Aff) : (sortAffs l).Pairwise (fun a b => a.key ≤ b.key) := by
  rw [sortAffs_eq]
  refine (isort_pairwise (le := affLe) (fun a b c h1 h2 => ?_) (fun a b => ?_) l).imp of_decide_eq_true
  · simp only [affLe, decide_eq_true_eq] at *
    omega
  · simp only [affLe, decide_eq_true_eq]
    omega

theorem mem_nonGlobalAffs {a : Aff} {rows : List PRow} :
    a ∈ nonGlobalAffs rows ↔ ∃ r ∈ rows, r.glob = false ∧ r.tx.aff = a := by
  simp [nonGlobalAffs, List.mem_eraseDups, and_assoc]

theorem mem_splitAffs {dflt : Aff} {holders : List Aff} {rows : List PRow} {a : Aff} :
    a ∈ splitAffs dflt holders rows ↔
      (a ∈ nonGlobalAffs rows ∨ a ∈ holders) ∨ (nonGlobalAffs rows = [] ∧ holders = [] ∧ a = dflt) := by
  unfold splitAffs
  simp only [(sortAffs_perm _).mem_iff]
  split
  next he =>
    have he' := List.append_eq_nil_iff.mp (List.isEmpty_iff.mp he)
    have h2 : holders = [] := by simpa [he'.1, List.eq_nil_iff_forall_not_mem] using he'.2
    simp [he'.1, h2]
  next he =>
    have hd : ¬ (nonGlobalAffs rows = [] ∧ holders = [] ∧ a = dflt) := fun ⟨h1, h2, _⟩ => he (by simp [h1, h2])
    by_cases hx : a ∈ nonGlobalAffs rows <;> simp [hx, hd]

theorem splitAffs_congr (dflt : Aff) (holders : List Aff) {R R' : List PRow}
    (h : nonGlobalAffs R = nonGlobalAffs R') : splitAffs dflt holders R = splitAffs dflt holders R' := by
  unfold splitAffs
  rw [h]

theorem splitAffs_nodup (dflt : Aff) (holders : List Aff) (hh : holders.Nodup) (rows : List PRow) :
    (splitAffs dflt holders rows).Nodup := by
  unfold splitAffs
  apply (sortAffs_perm _).nodup_iff.mpr
  split
  · simp
  · rw [List.nodup_append]
    refine ⟨nodup_eraseDups _, hh.filter _, ?_⟩
    intro x hx y hy e
    subst e
    simp [hx] at hy

theorem mem_expandSplits {affs : List Aff} {R : List PRow} {x : Tx} :
    x ∈ expandSplits affs R ↔ ∃ r ∈ R,
      (isGlobalSplit r = true ∧ ∃ a ∈ affs, x = { r.tx with aff := a }) ∨ (isGlobalSplit r = false ∧ x = r.tx) := by
  unfold expandSplits
  simp only [List.mem_flatMap]
  refine exists_congr fun r => and_congr_right fun _ => ?_
  cases isGlobalSplit r <;> simp [eq_comm]

theorem expandSplits_forall {P : Tx → Prop} {affs : List Aff} {R : List PRow} (h : ∀ r ∈ R, P r.tx)
    (ha : ∀ r ∈ R, ∀ a ∈ affs, P r.tx → P { r.tx with aff := a }) : ∀ x ∈ expandSplits affs R, P x := by
  intro x hx
  obtain ⟨r, hr, ⟨_, a, haf, rfl⟩ | ⟨_, rfl⟩⟩ := mem_expandSplits.mp hx
  · exact ha r hr a haf (h r hr)
  · exact h r hr

theorem expandSplits_append (affs : List Aff) (Q R : List PRow) :
    expandSplits affs (Q ++ R) = expandSplits affs Q ++ expandSplits affs R := List.flatMap_append

theorem expandSplits_cons_of_not_split {b : PRow} (hb : b.tx.act.isSplit = false) (affs : List Aff) (R : List PRow) :
    expandSplits affs (b :: R) = b.tx :: expandSplits affs R := by
  simp [expandSplits, isGlobalSplit, hb]

theorem expandSplits_aff {dflt : Aff} {holders : List Aff} {R L : List PRow} (hL : ∀ r ∈ L, r ∈ R)
    (hglob : ∀ r ∈ L, r.glob = true → r.tx.act.isSplit = true) :
    ∀ x ∈ expandSplits (splitAffs dflt holders R) L, x.aff ∈ splitAffs dflt holders R := by
  intro x hx
  obtain ⟨r, hr, ⟨_, a, ha, rfl⟩ | ⟨hng, rfl⟩⟩ := mem_expandSplits.mp hx
  · exact ha
  · refine mem_splitAffs.mpr (.inl (.inl (mem_nonGlobalAffs.mpr ⟨r, hL r hr, ?_, rfl⟩)))
    cases hg : r.glob with
    | false => rfl
    | true => simp [isGlobalSplit, hglob r hr hg, hg] at hng

theorem expandSplits_settle (affs : List Aff) {l : List PRow} (h : RowsSorted l) : SettleAsc (expandSplits affs l) := by
  have hkey : ∀ (r : PRow), ∀ x ∈ (if isGlobalSplit r = true then affs.map (fun a => { r.tx with aff := a })
      else [r.tx]), x.settle = r.tx.settle := by
    intro r x hx
    split at hx
    · obtain ⟨a, _, rfl⟩ := List.mem_map.mp hx
      rfl
    · rw [List.mem_singleton.mp hx]
  refine List.pairwise_flatMap.mpr ⟨fun r _ => List.pairwise_of_forall_mem_list fun a ha b hb => ?_, ?_⟩
  · rw [hkey r a ha, hkey r b hb]
    exact Int.le_refl _
  · refine (List.pairwise_map.mp h.settle).imp fun {r r'} hrr a ha b hb => ?_
    rw [hkey r a ha, hkey r' b hb]
    exact hrr

theorem expandSplits_noglobal (affs : List Aff) (rows : List PRow)
    (h : (rows.filter isGlobalSplit).isEmpty = true) : expandSplits affs rows = rows.map (·.tx) := by
  have hr : ∀ r ∈ rows, ¬ isGlobalSplit r = true := List.filter_eq_nil_iff.mp (List.isEmpty_iff.mp h)
  rw [expandSplits, List.flatMap_def, List.map_congr_left fun r hr' => if_neg (hr r hr'), ← List.flatMap_def,
    ← List.map_eq_flatMap]

theorem replaceGlobalSplits_eq (dflt : Aff) (holders : List Aff) (rows : List PRow) :
    replaceGlobalSplits dflt holders rows =
      if splitConflict [] rows = true then none
      else some (expandSplits (splitAffs dflt holders rows) rows) := by
  unfold replaceGlobalSplits
  split
  · rfl
  · split
    next hn => rw [expandSplits_noglobal _ _ hn]
    next => rfl

/-- the rows one security contributes to the ledger (nothing when its split validation fails) -/
def secTxs (dflt : Aff) (init : Option Status) (sortedRowsS : List PRow) : List Tx :=
  (replaceGlobalSplits dflt (if init.isSome then [dflt] else []) sortedRowsS).getD []

theorem secTxs_eq (dflt : Aff) (init : Option Status) (R : List PRow) :
    secTxs dflt init R = if splitConflict [] R = true then []
      else expandSplits (splitAffs dflt (if init.isSome then [dflt] else []) R) R := by
  rw [secTxs, replaceGlobalSplits_eq]
  split <;> rfl

theorem secResultSorted_eq (dflt : Aff) (init : Option Status) (R : List PRow) :
    secResultSorted dflt init R =
      if splitConflict [] R = true then ([], some (.err .splitConflict))
      else deltaList dflt init (expandSplits (splitAffs dflt (if init.isSome then [dflt] else []) R) R) := by
  rw [secResultSorted, replaceGlobalSplits_eq]
  by_cases h : splitConflict [] R = true
  · rw [if_pos h, if_pos h]
  · rw [if_neg h, if_neg h]

/-- `hA`: a split for all affiliates stands for one split per holder, so what holds of the rows must
    still hold of such a split when it is handed to the default affiliate or to the affiliate of
    another row of `R`. -/
theorem secResultSorted_history {P : Tx → Prop} (dflt : Aff) (init : Option Status) {R : List PRow}
    (hs : RowsSorted R) (hP : ∀ r ∈ R, P r.tx)
    (hA : ∀ r ∈ R, ∀ a, (a = dflt ∨ ∃ r' ∈ R, r'.tx.aff = a) → P r.tx → P { r.tx with aff := a }) :
    secResultSorted dflt init R = ([], some (.err .splitConflict)) ∨
    ((∀ tx ∈ secTxs dflt init R, P tx) ∧ SettleAsc (secTxs dflt init R) ∧
      secResultSorted dflt init R = deltaList dflt init (secTxs dflt init R)) := by
  rw [secResultSorted_eq, secTxs_eq]
  by_cases hc : splitConflict [] R = true
  · exact .inl (if_pos hc)
  · rw [if_neg hc, if_neg hc]
    refine .inr ⟨expandSplits_forall hP fun r hr a ha => hA r hr a ?_, expandSplits_settle _ hs, rfl⟩
    rcases mem_splitAffs.mp ha with (h1 | h1) | ⟨_, _, h1⟩
    · obtain ⟨r', hr', _, e⟩ := mem_nonGlobalAffs.mp h1
      exact .inr ⟨r', hr', e⟩
    · split at h1
      · exact .inl (List.mem_singleton.mp h1)
      · cases h1
    · exact .inl h1

/-- The result the pipeline reports for security `s` (`none` if `s` has no rows). -/
def resultFor (s : Nat) (res : List (Nat × List Delta × Option Failure)) :
    Option (List Delta × Option Failure) :=
  (res.find? (fun r => r.1 == s)).map (·.2)

theorem resultFor_runPipeline (dflt : Aff) (inits : Nat → Option Status) {rows : List PRow} {s : Nat}
    (hs : ∃ r ∈ rows, r.sec = s) :
    resultFor s (runPipeline dflt inits rows) =
      some (secResultSorted dflt (inits s) (sortRows (rowsOf s rows))) := by
  have hmem : s ∈ secsOf (sortRows rows) :=
    mem_secsOf.mpr (hs.imp fun r hr => ⟨mem_sortRows.mpr hr.1, hr.2⟩)
  rw [resultFor, runPipeline, ← rowsOf_sortRows]
  generalize secsOf (sortRows rows) = l at hmem
  induction l with
  | nil => cases hmem
  | cons x xs ih =>
    rw [List.map_cons, List.find?_cons]
    by_cases hx : x = s
    · simp [hx]
    · rw [show ((x, secResultSorted dflt (inits x) (rowsOf x (sortRows rows))).1 == s) = false by simpa using hx]
      exact ih ((List.mem_cons.mp hmem).resolve_left (Ne.symm hx))

theorem pipeline_history {P : Tx → Prop} (dflt : Aff) (inits : Nat → Option Status) (rows : List PRow)
    (s : Nat) (hs : ∃ r ∈ rows, r.sec = s) (hP : ∀ r ∈ rows, r.sec = s → P r.tx)
    (hA : ∀ r ∈ rows, r.sec = s → ∀ a, (a = dflt ∨ ∃ r' ∈ rows, r'.sec = s ∧ r'.tx.aff = a) →
      P r.tx → P { r.tx with aff := a }) :
    resultFor s (runPipeline dflt inits rows) = some ([], some (.err .splitConflict)) ∨
    ((∀ tx ∈ secTxs dflt (inits s) (sortRows (rowsOf s rows)), P tx) ∧
      SettleAsc (secTxs dflt (inits s) (sortRows (rowsOf s rows))) ∧
      resultFor s (runPipeline dflt inits rows) =
        some (deltaList dflt (inits s) (secTxs dflt (inits s) (sortRows (rowsOf s rows))))) := by
  rw [resultFor_runPipeline dflt inits hs]
  have hmem : ∀ r ∈ sortRows (rowsOf s rows), r ∈ rows ∧ r.sec = s :=
    fun r hr => mem_rowsOf.mp (mem_sortRows.mp hr)
  rcases secResultSorted_history (P := P) dflt (inits s) (sortRows_sorted (rowsOf s rows))
    (fun r hr => hP r (hmem r hr).1 (hmem r hr).2)
    (fun r hr a ha => hA r (hmem r hr).1 (hmem r hr).2 a
      (ha.imp_right fun ⟨r', hr', e⟩ => ⟨r', (hmem r' hr').1, (hmem r' hr').2, e⟩)) with h | ⟨h1, h2, h⟩
  · exact .inl (congrArg some h)
  · exact .inr ⟨h1, h2, congrArg some h⟩

/-- Validity does not look at the affiliate: every security's ledger runs on valid rows. -/
theorem pipeline_history_valid (dflt : Aff) (inits : Nat → Option Status) {rows : List PRow}
    (hv : ∀ r ∈ rows, r.tx.Valid) (s : Nat) (hs : ∃ r ∈ rows, r.sec = s) :
    resultFor s (runPipeline dflt inits rows) = some ([], some (.err .splitConflict)) ∨
    ((∀ tx ∈ secTxs dflt (inits s) (sortRows (rowsOf s rows)), tx.Valid) ∧
      SettleAsc (secTxs dflt (inits s) (sortRows (rowsOf s rows))) ∧
      resultFor s (runPipeline dflt inits rows) =
        some (deltaList dflt (inits s) (secTxs dflt (inits s) (sortRows (rowsOf s rows))))) :=
  pipeline_history (P := Tx.Valid) dflt inits rows s hs (fun r hr _ => hv r hr) (fun _ _ _ _ _ h => h)

end Acb
