/-
  Split neutrality (C15), phase 2: the inserted split rows.  A window scan that passes over them only
  has the adjustment factors of their affiliates changed; the loop cannot fail on them and is left
  with the scaled tracker.
-/
import AcbModel.Lemmas.Scaling
import AcbModel.Lemmas.SumInv
namespace Acb

def splitRow (day : Int) (idx : Nat) (post pre : Rat) (a : Aff) : Tx :=
  { trade := day, settle := day, idx := idx, aff := a, act := .split post pre false }

def splitRows (day : Int) (idx : Nat) (post pre : Rat) (As : List Aff) : List Tx :=
  As.map (fun a => { trade := day, settle := day, idx := idx, aff := a, act := .split post pre false })

theorem splitRows_cons (day : Int) (idx : Nat) (post pre : Rat) (a : Aff) (L : List Aff) :
    splitRows day idx post pre (a :: L) = splitRow day idx post pre a :: splitRows day idx post pre L := rfl

theorem splitRows_settle {day : Int} {idx : Nat} {post pre : Rat} {L : List Aff} {x : Tx}
    (h : x ∈ splitRows day idx post pre L) : x.settle = day := by
  obtain ⟨a, _, rfl⟩ := List.mem_map.mp h
  rfl

theorem splitRows_reverse (day : Int) (idx : Nat) (post pre : Rat) (L : List Aff) :
    (splitRows day idx post pre L).reverse = splitRows day idx post pre L.reverse := by
  unfold splitRows
  rw [List.map_reverse]

theorem upd_adj_splitRows (m : Aff → Rat) (g : Rat → Rat) {a : Aff} {L : List Aff} (ha : a ∉ L) :
    (fun b => if b ∈ L then g (upd m a (g (m a)) b) else upd m a (g (m a)) b) =
      fun b => if b ∈ a :: L then g (m b) else m b := by
  funext b
  by_cases hb : b = a
  · simp [upd, hb, ha]
  · simp [upd, hb]

theorem scanFwd_splitRows (t : Tracker) {lastDay day : Int} (hd : day ≤ lastDay) (idx : Nat) (post pre : Rat)
    (rest : List Tx) {L : List Aff} (hn : L.Nodup) (s : Scan) :
    scanFwd t lastDay s (splitRows day idx post pre L ++ rest) =
      scanFwd t lastDay { s with adj := fun a => if a ∈ L then s.adj a / splitFactor post pre else s.adj a } rest := by
  induction L generalizing s with
  | nil => rfl
  | cons a L ih =>
    obtain ⟨ha, hL⟩ := List.nodup_cons.mp hn
    rw [splitRows_cons, List.cons_append, scanFwd_cons, show (splitRow day idx post pre a).settle = day from rfl,
      if_neg (Int.not_lt.mpr hd), fwdStep_split (x := splitRow day idx post pre a) rfl]
    simp only [splitRow, ih hL, upd_adj_splitRows s.adj (· / splitFactor post pre) ha]

theorem scanBwd_splitRows (t : Tracker) {firstDay day : Int} (hd : firstDay ≤ day) (idx : Nat) (post pre : Rat)
    (rest : List Tx) {L : List Aff} (hn : L.Nodup) (s : Scan) :
    scanBwd t firstDay s (splitRows day idx post pre L ++ rest) =
      scanBwd t firstDay { s with adj := fun a => if a ∈ L then s.adj a * splitFactor post pre else s.adj a } rest := by
  induction L generalizing s with
  | nil => rfl
  | cons a L ih =>
    obtain ⟨ha, hL⟩ := List.nodup_cons.mp hn
    rw [splitRows_cons, List.cons_append, scanBwd_cons, show (splitRow day idx post pre a).settle = day from rfl,
      if_neg (Int.not_lt.mpr hd), ih hL, bwdStep_split (x := splitRow day idx post pre a) rfl]
    simp only [splitRow, upd_adj_splitRows s.adj (· * splitFactor post pre) ha]

structure SplitDelta (d : Delta) : Prop where
  gain : d.gain = none
  sfl : d.sfl = none
  acb : d.post.acb = d.pre.acb

theorem stepRow_split {As : List Aff} (hn : As.Nodup) {c : Tracker} (hr : Ready As c) {a : Aff} (ha : a ∈ As)
    (day : Int) (idx : Nat) (post pre : Rat) (hf : 0 < splitFactor post pre) (past future : List Tx) :
    ∃ d c1, stepRow c (splitRow day idx post pre a) past future = .ok (d, c1, []) ∧ SplitDelta d ∧ Ready As c1 ∧
      (∀ x, c1.bal x = if x = a then c.bal a * splitFactor post pre else c.bal x) ∧ ∀ x, c1.acbOf x = c.acbOf x := by
  have hle : c.bal a ≤ c.latestAll := by
    rw [hr.sum.total]
    exact le_sumOver (fun b _ => hr.nonneg b) ha
  have hmul : 0 ≤ c.bal a * splitFactor post pre := Rat.mul_nonneg (hr.nonneg a) (Rat.le_of_lt hf)
  have hsan : sanityCheck (c.nextPre a) a = .ok () :=
    sanityCheck_ok_iff.mpr ⟨by rw [nextPre_all, nextPre_shares]; exact Rat.not_lt.mpr hle, nextPre_acb c a ▸ hr.reg a⟩
  have harm : arm c (splitRow day idx post pre a) (c.nextPre a) past future =
      .ok { post := postOf (c.nextPre a) (.split post pre false) } :=
    armSplit_ok_iff.mpr ⟨by rw [nextPre_all, nextPre_shares]; grind, fun h => Bool.false_ne_true h.2.1, rfl⟩
  have hset : c.setLatest a (postOf (c.nextPre a) (.split post pre false)) = .ok (c.put a _) :=
    setLatest_ok_iff.mpr ⟨by rw [postOf_acb_isNone, nextPre_acb]; exact hr.reg a, arm_post_all harm, rfl⟩
  have hbal : ∀ x, (c.put a (postOf (c.nextPre a) (.split post pre false))).bal x =
      if x = a then c.bal a * splitFactor post pre else c.bal x := fun x => by
    simp only [put_bal, postOf, nextPre_eq]
  have hacb : ∀ x, (c.put a (postOf (c.nextPre a) (.split post pre false))).acbOf x = c.acbOf x := fun x => by
    rw [put_acbOf]
    split
    · rename_i hx
      rw [hx]
      simp only [postOf, nextPre_eq]
    · rfl
  refine ⟨_, _, stepRow_ok_iff.mpr ⟨hsan, _, harm, hset, rfl, rfl⟩, ⟨rfl, rfl, rfl⟩,
    ⟨hr.sum.setLatest hn ha hset, fun x => ?_, fun x => hacb x ▸ hr.reg x⟩, hbal, hacb⟩
  rw [hbal]
  split
  · exact hmul
  · exact hr.nonneg x

theorem deltaLoop_splitRows {As : List Aff} (hn : As.Nodup) (day : Int) (idx : Nat) (post pre : Rat)
    (hf : 0 < splitFactor post pre) :
    ∀ (L : List Aff), L.Nodup → (∀ a ∈ L, a ∈ As) →
    ∀ (c : Tracker) (past : List Tx) (acc : List Delta) (rest : List Tx), Ready As c →
    ∃ c2 sd, deltaLoop c past acc (splitRows day idx post pre L ++ rest) =
        deltaLoop c2 ((splitRows day idx post pre L).reverse ++ past) (acc ++ sd) rest ∧
      Ready As c2 ∧ (∀ x, c2.bal x = if x ∈ L then c.bal x * splitFactor post pre else c.bal x) ∧
      (∀ x, c2.acbOf x = c.acbOf x) ∧ sd.length = L.length ∧ ∀ d ∈ sd, SplitDelta d := by
  intro L
  induction L with
  | nil =>
    intro _ _ c past acc rest hr
    exact ⟨c, [], by simp [splitRows], hr, by simp, by simp, rfl, by simp⟩
  | cons a L ih =>
    intro hnd hsub c past acc rest hr
    obtain ⟨haL, hL⟩ := List.nodup_cons.mp hnd
    obtain ⟨haA, hsubL⟩ := List.forall_mem_cons.mp hsub
    obtain ⟨d, c1, hstep, hsd, hr1, hbal1, hacb1⟩ :=
      stepRow_split hn hr haA day idx post pre hf past (splitRows day idx post pre L ++ rest)
    obtain ⟨c2, sd, hloop, hr2, hbal2, hacb2, hlen, hall⟩ := ih hL hsubL c1 (splitRow day idx post pre a :: past)
      (acc ++ [d]) rest hr1
    refine ⟨c2, d :: sd, ?_, hr2, fun x => ?_, fun x => by rw [hacb2, hacb1], by simp [hlen],
      List.forall_mem_cons.mpr ⟨hsd, hall⟩⟩
    · -- the row generates nothing, so it is a run of its own
      exact ((Runs.step (p := []) hstep .done).deltaLoop_append acc).trans (hloop.trans (by simp [splitRows_cons]))
    · rw [hbal2, hbal1]
      by_cases hxa : x = a
      · subst hxa
        simp [haL]
      · simp [hxa]

theorem trackerScaled_of_split {As : List Aff} {f : Rat} {c c2 : Tracker} (hc : SumInv As c) (hc2 : SumInv As c2)
    (hbal : ∀ x, c2.bal x = if x ∈ As then c.bal x * f else c.bal x) (hacb : ∀ x, c2.acbOf x = c.acbOf x) :
    TrackerScaled f c c2 := by
  have hb : ∀ x, c2.bal x = c.bal x * f := by
    intro x
    rw [hbal]
    split
    · rfl
    · next hx => rw [hc.support x hx, Rat.zero_mul]
  have hall : c2.latestAll = c.latestAll * f := by
    rw [hc2.total, hc.total, ← sumOver_mul_right]
    exact sumOver_congr fun a _ => hb a
  exact .of_obs hb hall hacb (by rw [hc2.latest, hc.latest, hall])

end Acb
