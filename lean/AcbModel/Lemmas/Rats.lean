/-
  Facts about `Rat` that core Lean does not state, and about `rabs` and `rmin` of Basic/Num.lean.
-/
import AcbModel.Basic.Num
namespace Acb

theorem max_cases (a x : Rat) : max a x = a ∧ x ≤ a ∨ max a x = x ∧ a ≤ x := by
  rw [Rat.max_def]
  split
  · exact Or.inr ⟨rfl, ‹_›⟩
  · exact Or.inl ⟨rfl, Rat.le_of_lt (Rat.not_le.mp ‹_›)⟩

theorem neg_nonneg_iff {x : Rat} : 0 ≤ -x ↔ x ≤ 0 := by
  rw [Rat.le_neg_iff, Rat.neg_zero]

theorem neg_div (a b : Rat) : -a / b = -(a / b) := by
  rw [Rat.div_def, Rat.div_def, Rat.neg_mul]

theorem div_nonneg' {a b : Rat} (ha : 0 ≤ a) (hb : 0 < b) : 0 ≤ a / b := by
  rw [Rat.div_def]
  exact Rat.mul_nonneg ha (Rat.le_of_lt (Rat.inv_pos.mpr hb))

theorem div_pos' {a b : Rat} (ha : 0 < a) (hb : 0 < b) : 0 < a / b := by
  rw [Rat.div_def]
  exact Rat.mul_pos ha (Rat.inv_pos.mpr hb)

theorem div_ne_zero_of_ne {a b : Rat} (ha : a ≠ 0) (hb : b ≠ 0) : a / b ≠ 0 := fun h =>
  ha (by rw [← Rat.div_mul_cancel (a := a) hb, h, Rat.zero_mul])

theorem lt_add_of_pos' (a : Rat) {q : Rat} (hq : 0 < q) : a < a + q := by
  have := (Rat.add_lt_add_left (c := a)).mpr hq
  rwa [Rat.add_zero] at this

theorem rat_sub_zero (x : Rat) : x - 0 = x := by
  rw [Rat.sub_eq_add_neg, Rat.neg_zero, Rat.add_zero]

theorem rat_div_one (x : Rat) : x / 1 = x := by
  have : (1 : Rat)⁻¹ = 1 := by decide +kernel
  rw [Rat.div_def, this, Rat.mul_one]

theorem one_div_div (F f : Rat) : 1 / F / f = 1 / (F * f) := by grind

theorem rmin_pos {a b : Rat} (ha : 0 < a) (hb : 0 < b) : 0 < rmin a b := by
  unfold rmin; split <;> assumption

theorem rabs_eq_abs (x : Rat) : rabs x = x.abs := by unfold rabs Rat.abs; grind

theorem rabs_nonneg (x : Rat) : 0 ≤ rabs x := rabs_eq_abs x ▸ Rat.abs_nonneg

theorem rabs_pos {x : Rat} (h : x ≠ 0) : 0 < rabs x := rabs_eq_abs x ▸ Rat.abs_pos_iff.mpr h

theorem rabs_eq_zero {x : Rat} (h : rabs x = 0) : x = 0 := Rat.abs_eq_zero_iff.mp (rabs_eq_abs x ▸ h)

theorem rabs_of_nonneg {x : Rat} (h : 0 ≤ x) : rabs x = x := rabs_eq_abs x ▸ Rat.abs_of_nonneg h

theorem rabs_zero : rabs 0 = 0 := rfl

theorem rabs_neg (x : Rat) : rabs (-x) = rabs x := by rw [rabs_eq_abs, rabs_eq_abs, Rat.abs_neg]

theorem rabs_mul (a b : Rat) : rabs (a * b) = rabs a * rabs b := by
  -- each factor is `y` or `-y` for some `0 ≤ y`; neither side sees the sign
  have pm : ∀ x : Rat, ∃ y : Rat, 0 ≤ y ∧ (x = y ∨ x = -y) := fun x =>
    (Rat.le_total (a := 0) (b := x)).elim (fun h => ⟨x, h, Or.inl rfl⟩)
      fun h => ⟨-x, by rwa [Rat.le_neg_iff, Rat.neg_zero], Or.inr (Rat.neg_neg x).symm⟩
  obtain ⟨a, ha, rfl | rfl⟩ := pm a <;> obtain ⟨b, hb, rfl | rfl⟩ := pm b <;>
    simp only [Rat.neg_mul, Rat.mul_neg, Rat.neg_neg, rabs_neg, rabs_of_nonneg, ha, hb, Rat.mul_nonneg ha hb]

theorem rabs_div_mul {c o : Rat} (ho : o ≠ 0) : rabs (c / o) * rabs o = rabs c := by
  rw [← rabs_mul, Rat.div_mul_cancel ho]

theorem rabs_le {a b : Rat} (h1 : a ≤ b) (h2 : -a ≤ b) : rabs a ≤ b := by
  unfold rabs
  split
  · exact h2
  · exact h1

end Acb
