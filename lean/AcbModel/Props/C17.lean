/-
  C17 — Total-cost tables show the true maximum cost held.  `calcTotalCosts` (App/Costs.lean) is the
  model of `calc_total_costs` as repaired by the fixes for F-17 and F-09b; `Figure`, `carry`, `opening`,
  `notesOf`, `WF` (App/CostsSpec.lean) say what the report must show.
-/
import AcbModel.Generated.AppReports
import AcbModel.Lemmas.Costs
namespace Acb
open Acb.Costs

/-- C17.  On rows as the ledger produces them (`WF`) none of the panic sites of
    `calc_max_day_cost_per_sec` is reached. -/
theorem C17_no_panic (yearOf : Int → Int) (rows : List Row) (σ : List Nat → List Nat) (τ : List Int → List Int)
    (hwf : WF rows) : ∃ c, calcTotalCosts yearOf rows σ τ = .ok c := by
  obtain ⟨st, hst⟩ := loop1_ok (P := []) rows hwf .init
  rw [calcTotalCosts_eq, hst]
  exact ⟨_, rfl⟩

/-- C17.  The dated rows are exactly the days on which a transaction of the default non-registered
    affiliate settled, in increasing order, each once; the columns are exactly the securities that
    affiliate traded, each once. -/
theorem C17_rows_and_columns {yearOf : Int → Int} {rows : List Row} {σ : List Nat → List Nat}
    {τ : List Int → List Int} (hwf : WF rows) (hσ : IsOrder σ) (hτ : IsOrder τ) {c : Result}
    (h : calcTotalCosts yearOf rows σ τ = .ok c) :
    c.days.Pairwise (fun a b => a < b) ∧ (∀ d, d ∈ c.days ↔ ∃ r ∈ counted rows, r.day = d) ∧
    c.secs.Nodup ∧ (∀ s, s ∈ c.secs ↔ ∃ r ∈ counted rows, r.sec = s) := by
  -- `hwf` and `hσ` are not used
  obtain ⟨st, inv, rfl⟩ := calcTotalCosts_inv1 h
  refine ⟨sortDays_strict ((hτ st.days).nodup_iff.mpr inv.days_nodup), fun d => ?_, inv.secs_nodup, inv.secs_mem⟩
  rw [← inv.days_mem d]
  exact mem_sortDays.trans (hτ st.days).mem_iff

/-- C17.  In every dated row, the figure of every security is the highest cost base the security
    had after any transaction settling that day or, if none settled that day, its cost base after
    its most recent earlier transaction (its opening cost base before its first) — `Figure`. -/
theorem C17_day_figures {yearOf : Int → Int} {rows : List Row} {σ : List Nat → List Nat}
    {τ : List Int → List Int} (hwf : WF rows) (hσ : IsOrder σ) (hτ : IsOrder τ) {c : Result}
    (h : calcTotalCosts yearOf rows σ τ = .ok c) :
    ∀ d ∈ c.days, ∀ s ∈ c.secs, ∃ v, c.tab.cost d s = some v ∧ Figure rows s d v :=
  fun d hd s hs => ⟨_, calcTotalCosts_cell hwf hσ hτ h d hd s hs, figure_spec rows s d⟩

/-- The rendered row has a figure in every column (`.unwrap()` in `render_total_costs` is safe). -/
theorem C17_row_complete {yearOf : Int → Int} {rows : List Row} {σ : List Nat → List Nat}
    {τ : List Int → List Int} (hwf : WF rows) (hσ : IsOrder σ) (hτ : IsOrder τ) {c : Result}
    (h : calcTotalCosts yearOf rows σ τ = .ok c) :
    ∀ d ∈ c.days, ∀ x ∈ (c.rowOf d).figs, x.isSome = true := by
  intro d hd x hx
  simp only [Result.rowOf, Result.sortedSecs, List.mem_map] at hx
  obtain ⟨s, hs, rfl⟩ := hx
  simp [calcTotalCosts_cell hwf hσ hτ h d hd s (mem_sortNats.mp hs)]

/-- C17.  The total of a dated row is the sum of the figures shown in it. -/
theorem C17_row_total {yearOf : Int → Int} {rows : List Row} {σ : List Nat → List Nat}
    {τ : List Int → List Int} (hwf : WF rows) (hσ : IsOrder σ) (hτ : IsOrder τ) {c : Result}
    (h : calcTotalCosts yearOf rows σ τ = .ok c) :
    ∀ d, (c.rowOf d).total = ((c.rowOf d).figs.map (fun x => x.getD 0)).sum := by
  intro d
  simp only [Result.rowOf, Result.sortedSecs, List.map_map]
  rw [calcTotalCosts_total hwf hσ hτ h d]
  exact (sumOver_perm (sortNats_perm c.secs) _).symm

/-- C17, yearly table.  The years listed are exactly the years in which a transaction of the
    default non-registered affiliate settled; for each of them the table shows a day of that year
    whose total is the highest of the year (with that day's row, see `Result.yearlyRows`), and
    among several such days the earliest. -/
theorem C17_yearly_is_max {yearOf : Int → Int} {rows : List Row} {σ : List Nat → List Nat}
    {τ : List Int → List Int} (hwf : WF rows) (hσ : IsOrder σ) (hτ : IsOrder τ) {c : Result}
    (h : calcTotalCosts yearOf rows σ τ = .ok c) :
    ∀ y, (∃ d ∈ c.days, yearOf d = y) →
      ∃ b, c.yearly y = some b ∧ b ∈ c.days ∧ yearOf b = y ∧
        ∀ d ∈ c.days, yearOf d = y → c.tab.total d ≤ c.tab.total b ∧ (c.tab.total d = c.tab.total b → b ≤ d) := by
  -- `hwf` and `hσ` are not used
  intro y ⟨d, hd, hy⟩
  have yb := calcTotalCosts_yearly hτ h y
  cases hm : c.yearly y with
  | none =>
    rw [hm] at yb
    exact absurd hy (yb d hd)
  | some b =>
    rw [hm] at yb
    exact ⟨b, rfl, yb⟩

theorem C17_years_listed (yearOf : Int → Int) (c : Result) :
    ∀ y, y ∈ c.years yearOf ↔ ∃ d ∈ c.days, yearOf d = y := by
  intro y
  unfold Result.years
  rw [mem_sortDays, mem_dedup]
  simp

/-- C17.  The notes are exactly the transactions of registered affiliates and of other affiliates
    than the default one, in the order of the rows. -/
theorem C17_ignored_listed {yearOf : Int → Int} {rows : List Row} {σ : List Nat → List Nat}
    {τ : List Int → List Int} {c : Result} (h : calcTotalCosts yearOf rows σ τ = .ok c) :
    c.notes = notesOf rows := by
  obtain ⟨st, inv, rfl⟩ := calcTotalCosts_inv1 h
  exact inv.notes

theorem C17_ignored_complete (rows : List Row) (r : Row) (hr : r ∈ rows) (hc : r.counted = false) :
    ∃ n, noteOf r = some n ∧ n ∈ notesOf rows := by
  obtain ⟨n, hn⟩ := Option.ne_none_iff_exists'.mp (fun h => by simp [(noteOf_eq_none_iff r).mp h] at hc)
  exact ⟨n, hn, List.mem_filterMap.mpr ⟨r, hr, hn⟩⟩

/-- `Figure` pins the figure down uniquely, and the executable `figure` (which the driver evaluates on
    the implementation's own rows as the property's oracle) is that figure. -/
theorem C17_figure_determined (rows : List Row) (s : Nat) (d : Int) :
    Figure rows s d (figure rows s d) ∧ ∀ v, Figure rows s d v → v = figure rows s d :=
  ⟨figure_spec rows s d, fun _ hv => Figure_unique hv (figure_spec rows s d)⟩

/-- C17, source facts re-read by the translator on every run.  Days are settlement dates, a day's
    figure is a running `max`, the yearly day is replaced only by a strictly higher total, and the
    default affiliate is recognised by its exact id. -/
theorem C17_source_facts :
    Gen.costsDateField = "settlement_date" ∧ Gen.dayMaxFn = "max" ∧ Gen.yearlyMaxCmp = "<" ∧
    Gen.defaultAffiliateIds = ["default", "default (R)"] :=
  ⟨rfl, rfl, rfl, rfl⟩

end Acb

namespace Acb.Costs
/-! Non-vacuity: three securities, a security bought and sold out on one day (the F-17 shape), a
    tie of the yearly maximum, a registered and a non-default row.  The rows satisfy `WF`, the run
    completes, and the figures are the hand-computed ones (AAA is carried at its closing cost 0
    after day 10, not at the day's maximum 100; of the tied days 10 and 30 the earlier is shown). -/
def exRows : List Row := [
  { sec := 0, day := 10, pre := some 0, post := some 100, dflt := true },
  { sec := 0, day := 10, pre := some 100, post := some 0, dflt := true },
  { sec := 1, day := 20, pre := some 5, post := some 25, dflt := true },
  { sec := 2, day := 20, pre := none, post := none, dflt := true },
  { sec := 1, day := 30, pre := some 25, post := some 100, dflt := true },
  { sec := 1, day := 30, pre := some 100, post := some 95, dflt := true },
  { sec := 0, day := 400, pre := some 0, post := some 7, dflt := false, aff := 3 },
  { sec := 1, day := 400, pre := some 95, post := some 40, dflt := true } ]

private def exYear (d : Int) : Int := d / 365

example : WF exRows := by
  refine ⟨fun r hr p hp => ?_, by decide +kernel, by decide +kernel⟩
  have h : ∀ r ∈ exRows, (r.post.all (fun p => decide (0 ≤ p)) && r.pre.all (fun p => decide (0 ≤ p))) = true := by
    decide +kernel
  have := Bool.and_eq_true_iff.mp (h r hr)
  rcases hp with hp | hp
  · simpa [hp] using this.1
  · simpa [hp] using this.2

private def exOut : Except Panic Result := calcTotalCosts exYear exRows id id

private def exGet {α : Type} (f : Result → α) : Option α :=
  match exOut with
  | .ok c => some (f c)
  | .error _ => none

example : exGet (fun c => (c.days, c.sortedSecs)) = some ([10, 20, 30, 400], [0, 1]) := by decide +kernel
example : exGet (fun c => c.totalRows.map (fun r => (r.total, r.figs))) =
    some [(105, [some 100, some 5]), (25, [some 0, some 25]), (100, [some 0, some 100]), (40, [some 0, some 40])] := by
  decide +kernel
example : exGet (fun c => (c.yearlyRows exYear).map (fun yr => (yr.1, yr.2.map (·.day)))) =
    some [(0, some 10), (1, some 400)] := by decide +kernel
example : exGet (fun c => c.notes) = some [Note.registered 20 2, Note.nonDefault 400 0 3] := by decide +kernel

/-! F-17 as it was: the second loop carried the day's maximum forward. -/

/-- body of `for sec in &security_set` before the fix: `last_acbs` receives the figure of the day
    (the day's maximum when the security settled that day) -/
def fillSecLegacy (st : St) (d : Int) (f : Fill) (s : Nat) : Fill :=
  let v := match f.tab.cost d s with
    | some m => m
    | none => carriedCost st f s
  { tab := if (f.tab.cost d s).isSome then f.tab else observe f.tab d s v,
    last := fun s' => if s' = s then some v else f.last s' }

def legacyCell (rows : List Row) (d : Int) (s : Nat) : Option Rat :=
  match loop1 rows St.init with
  | .ok st =>
    ((sortDays st.days).foldl (fun f d' => (sortNats st.secs).foldl (fillSecLegacy st d') f)
      { tab := st.tab, last := fun _ => none }).tab.cost d s
  | .error _ => none

end Acb.Costs

namespace Acb
open Acb.Costs
/-- F-17 as it was.  On the example above (AAA bought and sold out on day 10) the legacy second
    loop shows AAA at 100 on day 20, where the required figure — the cost base after AAA's most
    recent earlier transaction — is 0; the repaired model shows 0 (`C17_day_figures`). -/
theorem C17_F17_was_wrong :
    legacyCell exRows 20 0 = some 100 ∧ figure exRows 0 20 = 0 ∧ Figure exRows 0 20 0 := by
  have e : figure exRows 0 20 = 0 := by decide +kernel
  exact ⟨by decide +kernel, e, e ▸ figure_spec exRows 0 20⟩
end Acb
