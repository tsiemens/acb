/-
  C15 at the level of the per-security pipeline: "whether the split is given once for all
  affiliates or once per affiliate".  The pipeline expands a split row for all affiliates to one
  split row per holder (`C15_global_eq_per_affiliate`), and `C15_neutral` applies to the expanded rows.
-/
import AcbModel.Props.C15
import AcbModel.Props.C15b
import AcbModel.Lemmas.RestateRow
import AcbModel.Lemmas.ValidCheck
namespace Acb

/-- C15 (pipeline level: one split row for all affiliates).  Let `Q ++ R` be the sorted rows
    of a security (no row carries the all-affiliates marker unless it is a split), `G` a split row
    for all affiliates, `post`-for-`pre`, dated `day`, with `Q` settling on or before and `R` on or
    after that day, and neither row list rejected by the split validation.  Then the security's
    result for `Q ++ G :: restated R` is value-neutral (`SplitNeutral`) with respect to its result
    for `Q ++ R`: the pipeline expands `G` to one split row per holder — the affiliates with rows
    of the security plus the default affiliate when there is an opening position — and
    `C15_neutral` applies to the expanded rows. -/
theorem C15_pipeline (dflt : Aff) (init : Option Status) (hi : InitOk dflt init)
    (Q R : List PRow) (G : PRow) (day : Int) (post pre : Rat) (hpost : 0 < post) (hpre : 0 < pre)
    (hG : G.glob = true) (hGact : G.tx.act = .split post pre false)
    (hGday : G.tx.settle = day ∧ G.tx.trade = day)
    (hglob : ∀ r ∈ Q ++ R, r.glob = true → r.tx.act.isSplit = true)
    (hQ : ∀ r ∈ Q, r.tx.Valid ∧ r.tx.settle ≤ day)
    (hR : ∀ r ∈ R, r.tx.Valid ∧ day ≤ r.tx.settle ∧ NoIntOnly r.tx)
    (hcA : splitConflict [] (Q ++ R) = false)
    (hcB : splitConflict [] (Q ++ G :: R.map (restateRow (splitFactor post pre))) = false) :
    SplitNeutral (splitFactor post pre)
      (splitAffs dflt (if init.isSome then [dflt] else []) (Q ++ R)).length
      (secResultSorted dflt init (Q ++ R))
      (secResultSorted dflt init (Q ++ G :: R.map (restateRow (splitFactor post pre)))) := by
  have hGglobal : isGlobalSplit G = true := by simp [isGlobalSplit, hGact, hG, Action.isSplit]
  rw [secResultSorted_eq, if_neg (Bool.eq_false_iff.mp hcA), secResultSorted_eq, if_neg (Bool.eq_false_iff.mp hcB),
    splitAffs_insert _ _ _ Q R hG, expandSplits_append,
    C15_global_eq_per_affiliate _ Q _ G hGglobal, expandSplits_restate]
  have hrows : ∀ (As : List Aff), As.map (fun a => { G.tx with aff := a }) = splitRows day G.tx.idx post pre As :=
    fun As => List.map_congr_left fun a _ => by simp [hGact, hGday.1, hGday.2]
  rw [hrows]
  -- every expanded row belongs to one of the affiliates the split goes to: a row with the marker
  -- is a split, hence was expanded
  have haff := fun L hL => expandSplits_aff (dflt := dflt) (holders := if init.isSome then [dflt] else [])
    (R := Q ++ R) (L := L) hL fun r hr => hglob r (hL r hr)
  have hholders : (if init.isSome then [dflt] else [] : List Aff).Nodup := by split <;> simp
  refine C15_neutral dflt init hi _ _ day G.tx.idx post pre _ hpost hpre
    (splitAffs_nodup dflt _ hholders _) (fun hne => mem_splitAffs.mpr (.inl (.inr ?_))) ?_ ?_
  · cases init with
    | none => exact absurd rfl hne
    | some _ => simp
  · intro x hx
    have h1 := expandSplits_forall (P := fun t => t.Valid ∧ t.settle ≤ day) hQ (fun _ _ _ _ h => h) x hx
    exact ⟨h1.1, haff Q (fun r hr => List.mem_append.mpr (.inl hr)) x hx, h1.2⟩
  · intro x hx
    have h1 := expandSplits_forall (P := fun t => t.Valid ∧ day ≤ t.settle ∧ NoIntOnly t) hR (fun _ _ _ _ h => h) x hx
    exact ⟨h1.1, haff R (fun r hr => List.mem_append.mpr (.inr hr)) x hx, h1.2⟩

/-! Non-vacuity: two affiliates buy, a 2-for-1 split for all affiliates on day 30, then a sale
    (restated) — all hypotheses hold. -/
private def e0 : Aff := ⟨0, false⟩
private def e1 : Aff := ⟨1, false⟩
private def qX : List PRow := [
  { sec := 0, glob := false, tx := { trade := 0, settle := 0, idx := 0, aff := e0, act := .buy 10 10 0 1 none } },
  { sec := 0, glob := false, tx := { trade := 5, settle := 5, idx := 1, aff := e1, act := .buy 6 12 0 1 none } } ]
private def rX : List PRow := [
  { sec := 0, glob := false, tx := { trade := 60, settle := 60, idx := 3, aff := e0, act := .sell 4 15 0 1 none none } } ]
private def gX : PRow := { sec := 0, glob := true, tx := { trade := 30, settle := 30, idx := 2, aff := e0, act := .split 2 1 false } }

example : SplitNeutral (splitFactor 2 1) (splitAffs e0 [] (qX ++ rX)).length
    (secResultSorted e0 none (qX ++ rX))
    (secResultSorted e0 none (qX ++ gX :: rX.map (restateRow (splitFactor 2 1)))) := by
  apply C15_pipeline e0 none ⟨rfl, by simp⟩ qX rX gX 30 2 1 (by decide) (by decide) rfl rfl ⟨rfl, rfl⟩
  · intro r hr hg
    simp only [qX, rX, List.cons_append, List.nil_append, List.mem_cons, List.mem_nil_iff, or_false] at hr
    rcases hr with rfl | rfl | rfl <;> simp at hg
  · intro r hr
    simp only [qX, List.mem_cons, List.mem_nil_iff, or_false] at hr
    rcases hr with rfl | rfl <;> exact ⟨Tx.valid_of_validB (by decide +kernel), by decide⟩
  · intro r hr
    simp only [rX, List.mem_cons, List.mem_nil_iff, or_false] at hr
    rcases hr with rfl
    exact ⟨Tx.valid_of_validB (by decide +kernel), by decide, fun po pr io h => by simp at h⟩
  · decide +kernel
  · decide +kernel

end Acb
