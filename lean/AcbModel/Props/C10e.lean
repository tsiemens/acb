/-
  C10, annual-gains mode: the later-rows statement is FALSE for the code (open finding F-10c).  The
  witness is kernel-evaluated on the model; the same history fails on the implementation
  (`acb --summarize-before 2020-01-10 --summarize-annual-gains`, recorded in known_findings.json).
-/
import AcbModel.App.Summary
import AcbModel.Basic.Date
namespace Acb

private def w0 : Aff := ⟨0, false⟩
private def day (y m d : Int) : Int := jdOfDate y m d
/-- Buy 100 @ 10 (2019-06-03); Sell 50 @ 8 (2020-01-06): a loss of 100; Buy 5 @ 8 (2020-01-20):
    5 of the 50 shares sold are bought back, so 10 % of the loss is superficial. -/
private def histW : List Tx := [
  { trade := day 2019 6 3, settle := day 2019 6 3, idx := 0, aff := w0, act := .buy 100 10 0 1 none },
  { trade := day 2020 1 6, settle := day 2020 1 6, idx := 1, aff := w0, act := .sell 50 8 0 1 none none },
  { trade := day 2020 1 20, settle := day 2020 1 20, idx := 2, aff := w0, act := .buy 5 8 0 1 none } ]
private def laterW : List Tx := histW.drop 2
private def gainsOfYear (y : Int) (ds : List Delta) : Rat :=
  ((ds.filter (fun d => yearOfJd d.tx.settle == y)).map (fun d => d.gain.getD 0)).sum

/-- C10, annual-gains mode — counterexample (F-10c).  In the full history the year 2020 shows
    a capital loss of 90.  The annual-gains summary before 2020-01-10 emits that loss as a one-share
    sale dated 2020-01-01; replayed with the later purchase of 2020-01-20 (inside its 30-day
    window) the whole loss is superficial: the year 2020 shows 0. -/
theorem C10_annual_loss_year_counterexample :
    let full := (deltaList w0 none histW).1
    let summary := makeSummaryTxs yearOfJd jan1 (day 2020 1 10) true full
    let replay := deltaList w0 none (summary ++ laterW)
    (deltaList w0 none histW).2 = none ∧ replay.2 = none ∧
    gainsOfYear 2020 full = -90 ∧ gainsOfYear 2020 replay.1 = 0 := by
  decide +kernel

end Acb
