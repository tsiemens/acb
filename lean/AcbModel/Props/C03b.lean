/-
  C03 at the level of the application pipeline, through `pipeline_history` at `C3Row`: a split for
  all affiliates handed to a non-registered affiliate is still a `C3Row`.
-/
import AcbModel.Props.C03
import AcbModel.Lemmas.SecTxs
import AcbModel.Lemmas.ValidCheck
namespace Acb
open Spec

/-- C03 (pipeline level).  For every input and every security `s` that has rows: if the rows of
    `s` are valid rows of non-registered affiliates without manual superficial-loss entries (the
    default affiliate being non-registered, the opening position well-formed) and the security's
    run is error-free, then the rows reported for `s` satisfy the conservation identity of
    `C03_conservation` at every position that closes a transaction with its automatic adjustments,
    as long as no sale so far is flagged "potentially over-applied". -/
theorem C03_pipeline (dflt : Aff) (inits : Nat → Option Status) (rows : List PRow) (s : Nat)
    (hs : ∃ r ∈ rows, r.sec = s) (hi : InitOk dflt (inits s))
    (hc : ∀ r ∈ rows, r.sec = s → C3Row r.tx)
    (ds : List Delta) (hres : resultFor s (runPipeline dflt inits rows) = some (ds, none))
    (U : List Aff) (hn : U.Nodup) (hUreg : ∀ a ∈ U, a.registered = false)
    (hU : ∀ d ∈ ds, d.tx.aff ∈ U) (k : Nat)
    (hbound : ds.drop k = [] ∨ ∃ x xs, ds.drop k = x :: xs ∧ ¬ IsSfla x.tx)
    (hnover : ∀ d ∈ ds.take k, overFlag d = false) :
    let bs0 := Books.init dflt (inits s)
    let f := flows bs0 {} (ds.take k)
    f.gains = f.proceeds - f.costs + f.roc +
      (totalAcb U (after bs0 ((ds.take k).map (·.tx))) - totalAcb U bs0) := by
  rcases pipeline_history (P := C3Row) dflt inits rows s hs hc (by
    rintro r _ _ a ha ⟨hv, _, hm⟩
    refine ⟨hv, ?_, hm⟩
    rcases ha with rfl | ⟨r', hr', hs', rfl⟩
    · exact hi.dflt
    · exact (hc r' hr' hs').2.1) with h | ⟨hct, _, h⟩
  · rw [h] at hres
    cases hres
  · rw [h, Option.some.injEq] at hres
    have := C03_conservation dflt (inits s) _ hi hct (congrArg Prod.snd hres) U hn hUreg
    rw [hres] at this
    exact this hU k hbound hnover

/-! Non-vacuity: two securities in one input, rows interleaved; security 0 has a purchase and a
    loss sale that is fully superficial (5 of 10 shares sold at a loss, still holding 5), security 1
    an over-sale.  Security 0's result is error-free, its rows are `C3Row`s, and the identity's
    hypotheses hold at the end of its report (`k = 3`: purchase, sale, adjustment). -/
private def c3Rows : List PRow := [
  { sec := 0, glob := false, tx := { trade := 0, settle := 0, idx := 0, aff := ⟨0, false⟩, act := .buy 10 10 0 1 none } },
  { sec := 1, glob := false, tx := { trade := 1, settle := 1, idx := 1, aff := ⟨0, false⟩, act := .sell 5 8 0 1 none none } },
  { sec := 0, glob := false, tx := { trade := 8, settle := 8, idx := 2, aff := ⟨0, false⟩, act := .sell 5 8 0 1 none none } } ]

private def c3Res : List Delta × Option Failure :=
  (resultFor 0 (runPipeline ⟨0, false⟩ (fun _ => none) c3Rows)).getD ([], some (.err .oversell))
example : (resultFor 0 (runPipeline ⟨0, false⟩ (fun _ => none) c3Rows)).isSome = true := by decide +kernel
example : c3Res.2.isNone = true ∧ c3Res.1.length = 3 := by decide +kernel
example : c3Res.1.map (fun d => (d.gain, d.post.acb, overFlag d)) =
    [(none, some 100, false), (some 0, some 50, false), (none, some 60, false)] := by decide +kernel
example : (resultFor 1 (runPipeline ⟨0, false⟩ (fun _ => none) c3Rows)).map (·.2.isSome) = some true := by
  decide +kernel
example : ∀ r ∈ c3Rows, r.sec = 0 → C3Row r.tx := by
  intro r hr _
  refine ⟨forall_valid_of_validB (by decide +kernel) r hr,
    (by decide : ∀ r ∈ c3Rows, r.tx.aff.registered = false) r hr, ?_⟩
  simp only [c3Rows, List.mem_cons, List.not_mem_nil, or_false] at hr
  rcases hr with rfl | rfl | rfl <;> trivial

end Acb
