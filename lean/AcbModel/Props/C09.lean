/-
  C09 — Same input, same output, byte for byte.  Every hash-container walk whose order could reach the
  output is a parameter of the model (`Orders`); the theorems say that the output is the same for all
  choices of these orders.
-/
import AcbModel.Generated.AppReports
import AcbModel.Lemmas.Orders
namespace Acb
open Acb.Costs Acb.Gains Acb.Splits Acb.Orders

/-- C09.  The rows a global split is replaced by, and their order, do not depend on the order in
    which the set of affiliates is walked (F-09a repaired). -/
theorem C09_split_expansion (σ σ' : List Nat → List Nat) (h : IsOrder σ) (h' : IsOrder σ')
    (dflt : Nat) (txs : List STx) : expand σ dflt txs = expand σ' dflt txs :=
  expand_congr h h' dflt txs

/-- C09.  The dated rows, the yearly rows — including which of several days sharing a year's
    maximum is shown (F-09b repaired) — and the list of notes are the same for every walk order of
    the security set and of the day map. -/
theorem C09_cost_tables {yearOf : Int → Int} {rows : List Row}
    {σ σ' : List Nat → List Nat} {τ τ' : List Int → List Int}
    (hwf : WF rows) (hσ : IsOrder σ) (hτ : IsOrder τ) (hσ' : IsOrder σ') (hτ' : IsOrder τ')
    {c c' : Result} (h : calcTotalCosts yearOf rows σ τ = .ok c) (h' : calcTotalCosts yearOf rows σ' τ' = .ok c') :
    c.totalRows = c'.totalRows ∧ c.yearlyRows yearOf = c'.yearlyRows yearOf ∧ c.notes = c'.notes := by
  -- `hwf` is not used: the two runs are the same outright, panic or not
  have e := calcTotalCosts_congr yearOf rows hσ hτ hσ' hτ'
  rw [h, h'] at e
  cases e
  exact ⟨rfl, rfl, rfl⟩

/-- C09.  The aggregate table is the same for every order in which the map of securities and the
    year maps are walked. -/
theorem C09_gains_tables (yearOf : Int → Int) (rs : List SecResult)
    {σ σ' : List CG → List CG} {ρ ρ' : List Int → List Int}
    (hσ : IsOrder σ) (hρ : IsOrder ρ) (hσ' : IsOrder σ') (hρ' : IsOrder ρ') (full : Bool) :
    aggTable full (aggGains σ ρ (completed yearOf rs)) = aggTable full (aggGains σ' ρ' (completed yearOf rs)) :=
  aggTable_congr (completed_wf yearOf rs) hσ hρ hσ' hρ' full

/-- C09, the whole report.  With all hash orders `o` replaced by any other `o'`, the output of a
    run — whether it fails, the security tables in print order with their footers, the aggregate
    table, and with `--total-costs` both cost tables and the order of the notes under them
    (F-09c repaired) — is the same, in both precision modes.  `WF` is what the ledger guarantees
    about the deltas (see C17). -/
theorem C09_deterministic (o o' : Orders) (ho : o.Ok) (ho' : o'.Ok) (yearOf : Int → Int) (dflt : Nat)
    (ledger : Nat → List STx → SecOut) (full totalCosts : Bool) (inp : Inputs)
    (hwf : WF (allCostRows o dflt ledger inp)) :
    appOutput o yearOf dflt ledger full totalCosts inp = appOutput o' yearOf dflt ledger full totalCosts inp :=
  -- `hwf` is not used: a run whose cost report panics fails in the same way for all orders
  appOutput_congr ho ho' yearOf dflt ledger full totalCosts inp

/-- C09, summary CSV.  The rows of the summary (and whether the run fails) are the same for all
    hash orders, for any per-security summary function. -/
theorem C09_summary_deterministic {τ : Type} (o o' : Orders) (ho : o.Ok) (ho' : o'.Ok) (dflt : Nat)
    (ledger : Nat → List STx → SecOut) (summarize : Nat → SecOut → List τ) (inp : Inputs) :
    summaryOutput o dflt ledger summarize inp = summaryOutput o' dflt ledger summarize inp := by
  unfold summaryOutput
  simp only [resultOf_congr ho ho' dflt ledger inp, printOrder_congr ho ho' inp, any_secs_congr ho ho']

/-- C09, source facts re-read by the translator on every run.  The affiliates of a global split are
    sorted by id; a year's day is replaced only by a strictly higher total and the days are visited
    in date order (so the earliest of tied days stays); `all_deltas`, the second loop of the cost
    report and the aggregate gains walk the securities in sorted order. -/
theorem C09_source_facts :
    Gen.splitAffSortKeys = "a.id().cmp(b.id())" ∧ Gen.yearlyMaxCmp = "<" ∧
    Gen.yearlyMaxWalk = "sorted_days" ∧ Gen.allDeltasWalk = "sorted_delta_results" ∧
    Gen.costsSecondLoopWalk = "sorted_secs" ∧ Gen.aggregateGainsWalk = "sorted_secs" :=
  ⟨rfl, rfl, rfl, rfl, rfl, rfl⟩

end Acb

namespace Acb.Orders
open Acb.Costs Acb.Gains Acb.Splits
def exTxs : List STx := [
  { trade := 1, isSplit := false, aff := some 0, tag := 0 },
  { trade := 2, isSplit := false, aff := some 2, tag := 1 },
  { trade := 3, isSplit := false, aff := some 1, tag := 2 },
  { trade := 9, isSplit := true, aff := none, tag := 3 } ]

/-! Non-vacuity of `C09_deterministic`: a run with a global split over three affiliates, two
    securities, and the cost report; the two extreme orders give the same, non-trivial output. -/
private def exLedger (s : Nat) (txs : List STx) : SecOut :=
  { ok := true,
    rows := txs.map (fun t => { cost := { sec := s, day := t.trade, pre := some 0, post := some (t.tag + 1 : Nat),
                                          dflt := t.aff == some 0, aff := t.aff.getD 0 },
                                gain := if t.isSplit then none else some 1 }) }
private def exInp : Inputs := [(1, exTxs), (0, [{ trade := 4, isSplit := false, aff := some 0, tag := 7 }])]
private def oId : Orders := ⟨id, id, id, id, id⟩
private def oRev : Orders := ⟨List.reverse, List.reverse, List.reverse, List.reverse, List.reverse⟩

example : oId.Ok ∧ oRev.Ok :=
  ⟨⟨id_isOrder, id_isOrder, id_isOrder, id_isOrder, id_isOrder⟩,
   ⟨reverse_isOrder, reverse_isOrder, reverse_isOrder, reverse_isOrder, reverse_isOrder⟩⟩

private def exGet {α : Type} (o : Orders) (f : AppOut → α) : Option α :=
  match appOutput o (fun _ => 2020) 0 exLedger true true exInp with
  | .ok out => some (f out)
  | .error _ => none

example : exGet oId (fun out => out.tables.map (fun t => (t.1, t.2.1.rows.length))) = some [(0, 1), (1, 6)] := by
  decide +kernel
example : exGet oRev (fun out => out.tables.map (fun t => (t.1, t.2.1.rows.length))) = some [(0, 1), (1, 6)] := by
  decide +kernel
example : exGet oId (fun out => out.aggregate) = some [(some 2020, 4), (none, 4)] := by decide +kernel
example : exGet oRev (fun out => out.costs.map (fun c => (c.1.map (·.day), c.2.2))) =
    some (some ([1, 4, 9], [Note.nonDefault 2 1 2, Note.nonDefault 3 1 1, Note.nonDefault 9 1 1, Note.nonDefault 9 1 2])) := by
  decide +kernel

/-! The three defects, as they were: each legacy decision does depend on the order (`List.reverse`
    and `id` are both orders; the outputs differ). -/

/-- `replace_global_security_splits` before the fix: the vector is used as it comes out of the set -/
def expandLegacy (σ : List Nat → List Nat) (dflt : Nat) (txs : List STx) : List STx :=
  let a := σ (nonGlobalAffiliates txs)
  let affs := if a.isEmpty then [dflt] else a
  txs.flatMap (fun t => if t.globalSplit then affs.map (fun a => { t with aff := some a }) else [t])

/-- the repaired expansion on the rows of `C09_F09a_was_order_dependent`: the same for both walk
    orders, in affiliate-id order -/
private def expandedTags (σ : List Nat → List Nat) : List (Nat × Option Nat) :=
  match expand σ 0 exTxs with
  | .ok l => l.map (fun t => (t.tag, t.aff))
  | .error _ => []

example : expandedTags id = [(0, some 0), (1, some 2), (2, some 1), (3, some 0), (3, some 1), (3, some 2)] ∧
    expandedTags List.reverse = expandedTags id := by decide +kernel

/-- `calc_yearly_max_cost_day` before the fix: the days are visited as the map yields them -/
def yearlyLegacy (yearOf : Int → Int) (total : Int → Rat) (days : List Int) (τ : List Int → List Int) : Int → Option Int :=
  ((τ days).foldl (yearStep yearOf total) { get := fun _ => none }).get

example : yearly (fun _ => 2020) (fun _ => 100) [5, 9] id 2020 = some 5 ∧
    yearly (fun _ => 2020) (fun _ => 100) [5, 9] List.reverse 2020 = some 5 := by decide +kernel

/-- F-09c as it was: `all_deltas` concatenated in map order, so the notes follow that order -/
def notesLegacy (σ : List Nat → List Nat) (rowsOf : Nat → List Row) (secs : List Nat) : List Note :=
  notesOf ((σ secs).flatMap rowsOf)

def exRowsOf (s : Nat) : List Row := [{ sec := s, day := 10 + s, pre := none, post := none, dflt := false }]

end Acb.Orders

namespace Acb
open Acb.Costs Acb.Splits Acb.Orders

/-- F-09a as it was: two walk orders of three affiliates give differently ordered split rows. -/
theorem C09_F09a_was_order_dependent : expandLegacy id 0 exTxs ≠ expandLegacy List.reverse 0 exTxs := by
  decide +kernel

/-- F-09b as it was: with two days of a year sharing the maximum, the day shown depends on the order -/
theorem C09_F09b_was_order_dependent :
    yearlyLegacy (fun _ => 2020) (fun _ => 100) [5, 9] id 2020 ≠
    yearlyLegacy (fun _ => 2020) (fun _ => 100) [5, 9] List.reverse 2020 := by decide +kernel

theorem C09_F09c_was_order_dependent :
    notesLegacy id exRowsOf [0, 1, 2] ≠ notesLegacy List.reverse exRowsOf [0, 1, 2] := by decide +kernel

end Acb
