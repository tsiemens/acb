/-
  C12 — USD rows use the Bank of Canada rate of the trade date or the last one before it.

  `getEffective` is the model of `RateLoader::get_effective_usd_cad_rate` (AcbModel/Fx/Loader.lean),
  `slotRate`/`rowRates` of the row-level currency rules (AcbModel/Fx/Row.lean), `jsonRemote` of the
  Bank of Canada JSON layer (AcbModel/Fx/Json.lean).  `IsRelevantRate e D r`
  (AcbModel/Lemmas/FxSpec.lean) is the property's own wording.
-/
import AcbModel.Lemmas.FxRun
import AcbModel.Lemmas.FxCivil
import AcbModel.Lemmas.FxExamples
import AcbModel.Fx.Row
import AcbModel.Fx.Json
namespace Acb
open Fx

/-- The look-back of `find_usd_cad_preceding_relevant_spot_rate` is seven days … -/
theorem C12_lookback_is_7_days : Gen.fxLookbackDays = 7 ∧ Gen.fxLookbackStepDays = 1 := ⟨rfl, rfl⟩

/-- … and the daily series is requested from 2017 on. -/
theorem C12_daily_from_2017 : Gen.fxDailyFromYear = 2017 := rfl

/-- The calendar the driver (and `time::Date`) uses satisfies the calendar law assumed below. -/
theorem C12_gregorian_calendar_ok : civil.OK := civil_ok

/-- A loader as `RateLoader::new` makes it, whose answers cannot depend on an earlier run: the cache
    is empty, or every first load of a year is forced to download. -/
def FreshLoader (e : Env) (cache : Store) : Prop := e.force = true ∨ cache = fun _ => none

theorem FreshLoader.inv {e : Env} {cache : Store} (h : FreshLoader e cache) : RunInv e (St.init cache) :=
  inv_init e cache (h.imp_right fun (h : cache = _) => h ▸ cacheOK_empty e)

/-- For every publication calendar (`RemoteWF`: per year sorted, inside the
    year, non-zero, nothing after today), every `today` and every trade date, the look-up of a fresh
    loader — download, zero-filling, date map, exact look-up, 7-step look-back across year
    boundaries — returns exactly `specRate`. -/
theorem C12_effective_eq_spec (e : Env) (hc : e.cal.OK) (hwf : RemoteWF e) (cache : Store)
    (hf : FreshLoader e cache) (D : Int) :
    forget (getEffective e (St.init cache) D).1 = specRate e D :=
  (getEffective_spec e hc hwf _ hf.inv D).2

/-- Non-vacuity: the hypotheses hold for a concrete calendar around New Year 2020 (rates on Dec 30,
    Jan 2, Jan 3, Jan 6; today Jan 21), and the look-up does what the property says: Jan 5 (a Sunday)
    gets the rate of Jan 3; Jan 1 gets the rate of Dec 30 of the previous year; Jan 14 (8 days after
    the last rate) and today (nothing published yet) are errors. -/
example : exEnv.cal.OK ∧ RemoteWF exEnv ∧ FreshLoader exEnv (fun _ => none) :=
  ⟨civil_ok, exEnv_wf, Or.inr rfl⟩
example : (getEffective exEnv (St.init fun _ => none) 2458854).1 = .ok ⟨2458852, 131/100⟩ := by decide +kernel
example : (getEffective exEnv (St.init fun _ => none) 2458850).1 = .ok ⟨2458848, 129/100⟩ := by decide +kernel
example : (getEffective exEnv (St.init fun _ => none) 2458863).1 = .error .notFound := by decide +kernel
example : (getEffective exEnv (St.init fun _ => none) 2458870).1 = .error .noRateYet := by decide +kernel
example : IsRelevantRate exEnv 2458854 ⟨2458852, 131/100⟩ :=
  specRate_sound (by decide +kernel)

/-- Whatever the look-up returns is the rate
    published for the trade date or, if none was published that day, the most recent one published
    within the preceding seven days (and then only for a trade date before today). -/
theorem C12_effective_is_relevant_rate (e : Env) (hc : e.cal.OK) (hwf : RemoteWF e) (cache : Store)
    (hf : FreshLoader e cache) (D : Int) (r : DailyRate)
    (h : (getEffective e (St.init cache) D).1 = .ok r) : IsRelevantRate e D r :=
  getEffective_relevant e hc hwf _ hf.inv h

/-- If a relevant rate exists (and the years of the eight days
    concerned can be downloaded), the look-up returns it. -/
theorem C12_effective_finds_relevant_rate (e : Env) (hc : e.cal.OK) (hwf : RemoteWF e) (cache : Store)
    (hf : FreshLoader e cache) (D : Int) (r : DailyRate)
    (hav : ∀ k : Nat, k ≤ 7 → availOf e.cal e.remote (D - k) = true)
    (h : IsRelevantRate e D r) : forget (getEffective e (St.init cache) D).1 = .ok r := by
  rw [C12_effective_eq_spec e hc hwf cache hf D]
  exact specRate_complete hav h

/-- The relevant rate is unique: the property determines the answer. -/
theorem C12_relevant_rate_unique (e : Env) (D : Int) (r r' : DailyRate)
    (h : IsRelevantRate e D r) (h' : IsRelevantRate e D r') : r = r' := by
  -- the later of two different days would have no published rate
  have hd : r.date = r'.date := by
    rcases Int.lt_trichotomy r.date r'.date with h1 | h1 | h1
    · exact nomatch (h.none_after h1 h'.date_le).symm.trans h'.published
    · exact h1
    · exact nomatch (h'.none_after h1 h.date_le).symm.trans h.published
  have hr := h.published.symm.trans (hd ▸ h'.published)
  obtain ⟨d, x⟩ := r
  obtain ⟨d', x'⟩ := r'
  cases hd
  cases hr
  rfl

/-- An error exactly when no relevant rate exists: that includes a trade dated today or later for
    which nothing has been published yet. -/
theorem C12_error_iff_none_exists (e : Env) (hc : e.cal.OK) (hwf : RemoteWF e) (cache : Store)
    (hf : FreshLoader e cache) (D : Int)
    (hav : ∀ k : Nat, k ≤ 7 → availOf e.cal e.remote (D - k) = true) :
    (∃ er, (getEffective e (St.init cache) D).1 = .error er) ↔ ¬ ∃ r, IsRelevantRate e D r := by
  constructor
  · intro ⟨er, h⟩ ⟨r, hr⟩
    have := C12_effective_finds_relevant_rate e hc hwf cache hf D r hav hr
    rw [h] at this
    cases this
  · intro hn
    cases h : (getEffective e (St.init cache) D).1 with
    | error er => exact ⟨er, rfl⟩
    | ok r => exact absurd ⟨r, C12_effective_is_relevant_rate e hc hwf cache hf D r h⟩ hn

theorem C12_never_later_at_most_7_days (e : Env) (hc : e.cal.OK) (hwf : RemoteWF e) (cache : Store)
    (hf : FreshLoader e cache) (D : Int) (r : DailyRate)
    (h : (getEffective e (St.init cache) D).1 = .ok r) : r.date ≤ D ∧ D - r.date ≤ 7 := by
  have hr := C12_effective_is_relevant_rate e hc hwf cache hf D r h
  exact ⟨hr.date_le, by have := hr.within_seven; omega⟩

/-- The rate returned is the published, non-zero rate of its day. -/
theorem C12_never_zero (e : Env) (hc : e.cal.OK) (hwf : RemoteWF e) (cache : Store)
    (hf : FreshLoader e cache) (D : Int) (r : DailyRate)
    (h : (getEffective e (St.init cache) D).1 = .ok r) :
    r.rate ≠ 0 ∧ pubOf e.cal e.remote r.date = some r.rate := by
  have hp := (C12_effective_is_relevant_rate e hc hwf cache hf D r h).published
  obtain ⟨l, hl, hlk⟩ := pubOf_eq_some hp
  exact ⟨hwf.rate_ne_zero hl (lookupLast_some_mem hlk), hp⟩

theorem C12_error_today_or_later_without_rate (e : Env) (hc : e.cal.OK) (hwf : RemoteWF e)
    (cache : Store) (hf : FreshLoader e cache) (D : Int) (hD : e.today ≤ D)
    (hp : pubOf e.cal e.remote D = none) :
    ∃ er, (getEffective e (St.init cache) D).1 = .error er := by
  cases h : (getEffective e (St.init cache) D).1 with
  | error er => exact ⟨er, rfl⟩
  | ok r =>
    have hr := C12_effective_is_relevant_rate e hc hwf cache hf D r h
    rcases hr.same_day_or_past with h5 | h5
    · cases (h5 ▸ hr.published).symm.trans hp
    · omega

/-- With a rate in the row no look-up happens (the loader
    is untouched) and the row is converted with exactly that rate. -/
theorem C12_explicit_rate_wins (e : Env) (s : St) (trade : Int) (c : Currency) (r : Rat)
    (hr : 0 < r) (hc : c ≠ .cad) :
    slotRate e s trade (some c) (some r) = (.ok (some (c, r)), s) := by
  have : ¬ r ≤ 0 := Rat.not_le.mpr hr
  simp [slotRate, loadRateIfNeeded, getValidExchangeRate, tryNew, this, hc]

example : slotRate exEnv (St.init fun _ => none) 2458854 (some .usd) (some (5/4)) =
    (.ok (some (.usd, 5/4)), St.init fun _ => none) :=
  C12_explicit_rate_wins _ _ _ _ _ (by decide +kernel) (by decide)

theorem C12_cad_needs_none (e : Env) (s : St) (trade : Int) :
    slotRate e s trade none none = (.ok none, s) ∧
    slotRate e s trade (some .cad) none = (.ok (some (.cad, 1)), s) := by
  simp [slotRate, loadRateIfNeeded, getValidExchangeRate]

theorem C12_cad_accepts_only_1 (e : Env) (s : St) (trade : Int) (r : Rat) :
    (∃ p, (slotRate e s trade (some .cad) (some r)).1 = .ok p) ↔ r = 1 := by
  simp only [slotRate, loadRateIfNeeded, getValidExchangeRate, tryNew]
  by_cases h1 : r = 1
  · subst h1
    have : ¬ ((1 : Rat) ≤ 0) := by decide +kernel
    simp [this]
  · by_cases h0 : r ≤ 0 <;> simp [h0, h1]

theorem C12_other_currency_needs_rate (e : Env) (s : St) (trade : Int) (code : String) :
    slotRate e s trade (some (.other code)) none = (.error .notAuto, s) := by
  simp [slotRate, loadRateIfNeeded]

theorem C12_usd_keyed_on_trade_date (e : Env) (s : St) (trade : Int) :
    (slotRate e s trade (some .usd) none).1 =
      match (getEffective e s trade).1 with
      | .ok r => (match tryNew .usd r.rate with | .ok p => .ok (some p) | .error er => .error er)
      | .error er => .error (.fx er) := by
  simp only [slotRate, loadRateIfNeeded]
  cases h : getEffective e s trade with
  | mk res s' =>
    cases res with
    | error er => rfl
    | ok r =>
      simp only [getValidExchangeRate]
      cases tryNew .usd r.rate <;> rfl

example : (slotRate exEnv (St.init fun _ => none) 2458854 (some .usd) none).1 = .ok (some (.usd, 131/100)) := by
  decide +kernel
example : (slotRate exEnv (St.init fun _ => none) 2458854 (some .cad) (some (13/10))).1 = .error .cadNot1 := by
  decide +kernel

/-- Against a Bank of Canada
    server holding positive values, the data the loader works with are: for a year before 2017 the
    noon observations as published, for 2017 and later the reciprocals of the daily observations. -/
theorem C12_noon_direct_daily_inverted (b : Boc) (y : Int)
    (hn : ∀ l, b.noon y = some l → ∀ p ∈ l, 0 < p.2)
    (hd : ∀ l, b.daily y = some l → ∀ p ∈ l, 0 < p.2) :
    jsonRemote b y =
      if 2017 ≤ y then (b.daily y).map (·.map fun p => ⟨p.1, 1 / p.2⟩)
      else (b.noon y).map (·.map fun p => ⟨p.1, p.2⟩) := by
  -- every record of the response carries a date and a positive value under the requested key
  have key : ∀ (f : Int × Rat → Obs) (g : Int × Rat → DailyRate) (l : List (Int × Rat)),
      (∀ p ∈ l, obsRate (f p) = some (g p)) → parseObservations (l.map f) = l.map g := by
    intro f g l hl
    induction l with
    | nil => rfl
    | cons p ps ih =>
      rw [List.forall_mem_cons] at hl
      simp only [parseObservations, List.map_cons, List.filterMap_cons, hl.1]
      exact congrArg _ (ih hl.2)
  unfold jsonRemote seriesForYear
  rw [C12_daily_from_2017]
  split <;> simp only [Boc.respond]
  · cases hl : b.daily y with
    | none => rfl
    | some l =>
      refine congrArg some (key _ _ l fun p hp => ?_)
      simp [obsRate, hd l hl p hp]
  · cases hl : b.noon y with
    | none => rfl
    | some l =>
      refine congrArg some (key _ _ l fun p hp => ?_)
      simp [obsRate, hn l hl p hp]

/-- Non-vacuity: one noon observation in 2016 (used as published), one daily observation in 2017
    (0.8 CAD→USD becomes 1.25 USD→CAD). -/
example : let b : Boc := { noon := fun _ => some [(2457500, 13/10)], daily := fun _ => some [(2457800, 4/5)] }
    jsonRemote b 2016 = some [⟨2457500, 13/10⟩] ∧ jsonRemote b 2017 = some [⟨2457800, 5/4⟩] := by
  decide +kernel

end Acb
