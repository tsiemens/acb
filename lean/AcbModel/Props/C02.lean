/-
  C02 — Superficial-loss rule: 30-day window, min(sold, acquired, held) ratio.

  Vocabulary: `sflInfo` is the model of `get_superficial_loss_info` (the two window scans),
  `calcRatio` of `calc_superficial_loss_ratio`, `deltaSflInfo` of `get_delta_superficial_loss_info`,
  `armSell` of the Sell arm of `delta_for_tx`.
-/
import AcbModel.Lemmas.Window
import AcbModel.Lemmas.WfLoop
namespace Acb
open Spec

/-- **C02 (the window is 30 calendar days on both sides).**  The constants are regenerated from
    `superficial_loss.rs` on every run; this theorem stops compiling when the code says otherwise. -/
theorem C02_window_is_30 : Gen.sflWindowBeforeDays = 30 ∧ Gen.sflWindowAfterDays = 30 := by decide

/-- **C02 (allowed discrepancy of a user-supplied superficial loss is 0.001).** -/
theorem C02_max_diff : sflMaxDiff = 1 / 1000 := by decide +kernel

/-- The quantities the two scans produce for a sale, when neither look-ahead error occurs:
    shares held by all affiliates at the end of the window and shares acquired in the window, both
    in the split period of the sale. -/
structure WindowFacts where
  heldEnd : Rat
  acquired : Rat

/-- **C02 (when is a loss superficial).**  For a loss sale whose look-ahead does not fail, the scan
    declares the loss superficial exactly when shares were acquired in the window (`acquired > 0`)
    and the affiliates together still hold shares at its end (`heldEnd > 0`); `heldEnd` is the
    forward scan's total, `acquired` the sum of both scans. -/
theorem C02_superficial_iff {t : Tracker} {seller : Aff} {settle : Int} {sold : Rat}
    {past future : List Tx} {s1 : Scan}
    (h1 : ¬ (t.latestPostAll - sold < 0)) (h2 : ¬ (t.bal seller - sold < 0))
    (hf : scanFwd t (settle + Gen.sflWindowAfterDays)
      (initScan t seller sold) future = .ok s1) :
    let s2 := scanBwd t (settle - Gen.sflWindowBeforeDays) { s1 with adj := fun _ => 1 } past
    (∃ i, sflInfo t seller settle sold past future = .ok (some i) ∧
          i.allEop = s1.allEop ∧ i.acquired = s2.acquired) ↔ (0 < s1.allEop ∧ 0 < s2.acquired) := by
  intro s2
  simp only [sflInfo_of_fwd h1 h2 hf, Except.ok.injEq, sliOf_eq_some_iff]
  exact ⟨fun ⟨_, ⟨ha, hb, _⟩, _⟩ => ⟨ha, hb⟩, fun h => ⟨_, ⟨h.1, h.2, rfl⟩, rfl, rfl⟩⟩

/-- **C02 (the ratio is min(sold, acquired, held) / sold).** -/
theorem C02_ratio {sold : Rat} {i : SliInfo} {r : SflRatio} (h : calcRatio sold i = .ok r) :
    r.num = min3 sold i.acquired i.allEop ∧ r.den = sold := by
  rw [(calcRatio_ok_iff.mp h).2.2]
  exact ⟨rfl, rfl⟩

theorem min3_le (a b c : Rat) : min3 a b c ≤ a ∧ min3 a b c ≤ b ∧ min3 a b c ≤ c := by
  unfold min3 rmin
  split <;> split <;> grind

theorem min3_mem (a b c : Rat) : min3 a b c = a ∨ min3 a b c = b ∨ min3 a b c = c := by
  unfold min3 rmin
  split <;> split <;> simp

/-- **C02 (automatic case: denied amount and adjustments).**  With no user-supplied entry, a
    superficial loss is reported exactly when the scan found one and the denied amount
    `loss · min(sold, acquired, held)/sold` (rounded to an exact cent when within 1e-10 of one)
    is not zero; the reported amount is that value. -/
theorem C02_automatic {t : Tracker} {tx : Tx} {sold loss : Rat} {past future : List Tx}
    {r : SflRatio} (hr : sflRatio t tx.aff tx.settle sold past future = .ok (some r)) :
    let denied := effCent (loss * (r.num / r.den))
    (denied < 0 → ∃ adj, deltaSflInfo t tx sold none loss past future =
        .ok (some ({ loss := denied, num := r.num, den := r.den, over := r.over, overMargin := r.overMargin }, adj))
        ∨ ∃ f, adjustTxs tx denied (sortByKey r.portions) = .error f) ∧
    (¬ denied < 0 → deltaSflInfo t tx sold none loss past future = .ok none) := by
  intro denied
  simp only [deltaSflInfo_eq, hr, Except.bind, dsiOf_none, Option.bind_some, calcSflOf]
  exact ⟨fun hd => ⟨_, .inl (congrArg _ (if_pos hd))⟩, fun hd => congrArg _ (if_neg hd)⟩

/-- **C02 (no acquisition or nothing held ⇒ whole loss reported).** -/
theorem C02_not_superficial {t : Tracker} {tx : Tx} {sold loss : Rat} {past future : List Tx}
    (hr : sflRatio t tx.aff tx.settle sold past future = .ok none) :
    deltaSflInfo t tx sold none loss past future = .ok none := by
  simp only [deltaSflInfo_eq, hr, Except.bind, dsiOf_none, Option.bind_none]

/-- **C02 (a user-supplied superficial loss replaces the computed one and suppresses automatic
    adjustments; it is rejected when it differs from the computed value by more than 0.001
    unless forced).**  `computed` is the computed amount (0 when the scan finds no superficial loss). -/
theorem C02_specified {t : Tracker} {tx : Tx} {sold loss v : Rat} {force : Bool} {past future : List Tx}
    {msfl : Option SflRatio} (hr : sflRatio t tx.aff tx.settle sold past future = .ok msfl) :
    let computed : Rat := match msfl with | none => 0 | some r => effCent (loss * (r.num / r.den))
    (force = false ∧ rabs (computed - v) > sflMaxDiff →
        deltaSflInfo t tx sold (some (v, force)) loss past future = .error (.err .sflMismatch)) ∧
    ((force = true ∨ ¬ rabs (computed - v) > sflMaxDiff) → v < 0 →
        deltaSflInfo t tx sold (some (v, force)) loss past future =
          .ok (some ({ loss := v, num := (v / loss) * sold, den := sold, over := false }, []))) ∧
    ((force = true ∨ ¬ rabs (computed - v) > sflMaxDiff) → ¬ v < 0 →
        deltaSflInfo t tx sold (some (v, force)) loss past future = .ok none) := by
  intro computed
  have e : calcSflOf loss msfl = computed := by cases msfl <;> rfl
  simp only [deltaSflInfo_eq, hr, Except.bind, dsiOf_some, e]
  refine ⟨fun h => if_pos h, fun h hv => ?_, fun h hv => ?_⟩ <;>
    rw [if_neg fun hb => h.elim (fun hf => by simp [hb.1] at hf) (· hb.2)]
  · exact if_pos hv
  · exact if_neg hv

/-- The rows of the 30-day windows around a sale settling on `settle`. -/
def windowAfter (settle : Int) (future : List Tx) : List Tx :=
  future.filter (fun x => decide (x.settle ≤ settle + Gen.sflWindowAfterDays))

def windowBefore (settle : Int) (past : List Tx) : List Tx :=
  past.filter (fun x => decide (settle - Gen.sflWindowBeforeDays ≤ x.settle))

/-- Shares held by all affiliates of `U` at the end of the window, each affiliate's balance
    expressed in the split period of the sale (divided by the product of its split factors since
    the sale); `bsAfter` are the books right after the sale. -/
def heldAtEnd (U : List Aff) (bsAfter : Books) (win : List Tx) : Rat :=
  sumOver U (fun a => (after bsAfter win a).shares / factors (fun _ => 1) win a)

/-- **C02 (the rule, on a date-sorted history).**  Let the processed rows `past` (most recent
    first) and the pending rows `future` be sorted by settlement date, let the tracker be well
    formed and hold the books `bs`, and let the look-ahead not run into a negative balance.  Then
    the loss of a sale of `sold` shares by `seller` settling on `settle` is declared superficial
    exactly when

    * some Buy row — of any affiliate, registered or not — settles within 30 days before or after
      `settle` (same-day rows on either side of the sale in file order included), and
    * the affiliates together still hold shares at the end of the window, counted in the split
      period of the sale (`heldAtEnd > 0`);

    and then the "held" figure the ratio uses is exactly `heldAtEnd`. -/
theorem C02_rule {t : Tracker} {U : List Aff} (hw : TrackerWFOn U t) {bs : Books}
    (hr : TrackerRefines t bs) {sale : Tx} {sold : Rat} {px comm rate : Rat} {crate : Option Rat}
    {spec : Option (Rat × Bool)} (hact : sale.act = .sell sold px comm rate crate spec)
    {past future : List Tx}
    (hsp : SettleDesc past) (hsf : SettleAsc future)
    (hvp : ∀ x ∈ past, x.Valid) (hvf : ∀ x ∈ future, x.Valid)
    (hU : sale.aff ∈ U ∧ ∀ x ∈ future, x.aff ∈ U)
    (h1 : ¬ (t.latestPostAll - sold < 0)) (h2 : ¬ (t.bal sale.aff - sold < 0))
    {s1 : Scan}
    (hf : scanFwd t (sale.settle + Gen.sflWindowAfterDays)
      (initScan t sale.aff sold) future = .ok s1) :
    let held := heldAtEnd U (stepBooks bs sale) (windowAfter sale.settle future)
    let bought := ∃ x, (x ∈ windowBefore sale.settle past ∨ x ∈ windowAfter sale.settle future) ∧ x.act.isBuy = true
    s1.allEop = held ∧
    ((∃ i, sflInfo t sale.aff sale.settle sold past future = .ok (some i) ∧ i.allEop = held) ↔
      (bought ∧ 0 < held)) := by
  intro held bought
  have hfw := hf
  rw [scanFwd_filter _ _ _ hsf] at hfw
  have hwinf : ∀ x ∈ windowAfter sale.settle future,
      x.settle ≤ sale.settle + Gen.sflWindowAfterDays ∧ x.Valid ∧ x.aff ∈ U := fun x hx =>
    have := List.mem_filter.mp hx
    ⟨by simpa using this.2, hvf x this.1, hU.2 x this.1⟩
  have heq : s1.allEop = held := (scanFwd_held hw.nodup _ _ _ _ _ _ hwinf (initScan_held hw hr hact hU.1) hfw).total
  refine ⟨heq, ?_⟩
  have hacq : 0 < (scanBwd t (sale.settle - Gen.sflWindowBeforeDays) { s1 with adj := fun _ => 1 }
      past).acquired ↔ bought := by
    rw [scanBwd_filter _ _ _ hsp]
    exact scans_acquired_pos (fun a => hw.bal_nonneg a) h2
      (fun x hx => have := List.mem_filter.mp hx; ⟨by simpa using this.2, hvp x this.1⟩)
      (fun x hx => ⟨(hwinf x hx).1, (hwinf x hx).2.1⟩) hfw
  simp only [sflInfo_of_fwd h1 h2 hf, Except.ok.injEq, sliOf_eq_some_iff]
  exact ⟨fun ⟨_, ⟨ha, hb, _⟩, _⟩ => ⟨hacq.mp hb, heq ▸ ha⟩,
    fun ⟨hb, hh⟩ => ⟨_, ⟨heq ▸ hh, hacq.mpr hb, rfl⟩, heq⟩⟩

end Acb

namespace Acb
/-! Non-vacuity / boundary examples (kernel-evaluated): a purchase 30 days before the sale makes
    the loss superficial, 31 days before does not; likewise 30 / 31 days after; a same-day
    purchase counts whether it precedes or follows the sale in file order; a registered
    affiliate's purchase counts; nothing held at the end of the window ⇒ not superficial. -/
private def d0 : Aff := ⟨0, false⟩
private def rr : Aff := ⟨1, true⟩
private def mk (day : Int) (idx : Nat) (a : Aff) (act : Action) : Tx := { trade := day, settle := day, idx := idx, aff := a, act := act }
private def sflFlags (txs : List Tx) : List Bool := ((deltaList d0 none txs).1.filter (fun d => d.tx.act.isSell)).map (fun d => d.sfl.isSome)

example : sflFlags [mk 0 0 d0 (.buy 10 10 0 1 none), mk 30 1 d0 (.sell 5 8 0 1 none none)] = [true] := by decide +kernel
example : sflFlags [mk 0 0 d0 (.buy 10 10 0 1 none), mk 31 1 d0 (.sell 5 8 0 1 none none)] = [false] := by decide +kernel
example : sflFlags [mk 0 0 d0 (.buy 10 10 0 1 none), mk 100 1 d0 (.sell 5 8 0 1 none none), mk 130 2 d0 (.buy 1 9 0 1 none)] = [true] := by decide +kernel
example : sflFlags [mk 0 0 d0 (.buy 10 10 0 1 none), mk 100 1 d0 (.sell 5 8 0 1 none none), mk 131 2 d0 (.buy 1 9 0 1 none)] = [false] := by decide +kernel
example : sflFlags [mk 0 0 d0 (.buy 10 10 0 1 none), mk 100 1 d0 (.sell 5 8 0 1 none none), mk 100 2 d0 (.buy 1 9 0 1 none)] = [true] := by decide +kernel
example : sflFlags [mk 0 0 d0 (.buy 10 10 0 1 none), mk 100 1 d0 (.buy 1 9 0 1 none), mk 100 2 d0 (.sell 5 8 0 1 none none)] = [true] := by decide +kernel
example : sflFlags [mk 0 0 d0 (.buy 10 10 0 1 none), mk 100 1 d0 (.sell 5 8 0 1 none none), mk 110 2 rr (.buy 1 9 0 1 none)] = [true] := by decide +kernel
example : sflFlags [mk 0 0 d0 (.buy 10 10 0 1 none), mk 100 1 d0 (.sell 10 8 0 1 none none), mk 110 2 d0 (.buy 1 9 0 1 none), mk 120 3 d0 (.sell 1 9 0 1 none none)] = [false, false] := by decide +kernel
/-- partial disposition: 10 sold, 4 re-acquired, 4 held ⇒ 4/10 of the loss is denied -/
example : ((deltaList d0 none [mk 0 0 d0 (.buy 10 10 0 1 none), mk 100 1 d0 (.sell 10 8 0 1 none none),
      mk 110 2 d0 (.buy 4 9 0 1 none)]).1.map (fun d => (d.gain, d.sfl.map (fun s => (s.loss, s.num, s.den))))) =
    [(none, none), (some (-12), some (-8, 4, 10)), (none, none), (none, none)] := by decide +kernel

/-- **C02 (the comparisons the model uses are the source's).**  Regenerated from the source on
    every run: the tolerance test is a strict `>` (a difference of exactly 0.001 is accepted); the
    forward scan stops at the first row settling strictly after the last day of the window and the
    backward scan at the first row settling strictly before its first day (both edge days are
    inside). -/
theorem C02_comparisons_match_source :
    Gen.sflDiffOp = ">" ∧ Gen.sflFwdBreakOp = ">" ∧ Gen.sflBwdBreakOp = "<" := by decide

end Acb
