/-
  C08, continued — "the aggregate gains change by exactly the other securities' own totals", on the
  gains model of C06.
-/
import AcbModel.Lemmas.Gains
namespace Acb
open Acb.Gains Acb.Costs

/-- C08.  Take the results of two inputs over disjoint sets of securities (`rs`, `rs'`), each
    possibly containing rejected securities.  For every year, the figure of the aggregate table of
    the combined input is the sum of the figures of the two separate aggregate tables (a missing
    year counting as 0), whatever the hash orders of the three runs; a rejected security contributes
    to none of them. -/
theorem C08_aggregate_additive (yearOf : Int → Int) (rs rs' : List SecResult)
    (σ σ1 σ2 : List CG → List CG) (ρ ρ1 ρ2 : List Int → List Int)
    (hσ : IsOrder σ) (hρ : IsOrder ρ) (hσ1 : IsOrder σ1) (hρ1 : IsOrder ρ1) (hσ2 : IsOrder σ2) (hρ2 : IsOrder ρ2)
    (y : Int) :
    ((aggGains σ ρ (completed yearOf (rs ++ rs'))).byYear y).getD 0 =
      ((aggGains σ1 ρ1 (completed yearOf rs)).byYear y).getD 0 +
      ((aggGains σ2 ρ2 (completed yearOf rs')).byYear y).getD 0 := by
  rw [aggGains_getD hσ hρ (completed_wf _ _), aggGains_getD hσ1 hρ1 (completed_wf _ _),
    aggGains_getD hσ2 hρ2 (completed_wf _ _), completed_append, sumOver_append]

end Acb
