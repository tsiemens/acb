/-
  C04, continued — "the security is left out of every capital-gain total", in the gains model
  (`get_cumulative_capital_gains`, C06).
-/
import AcbModel.Lemmas.Gains
namespace Acb
open Acb.Gains Acb.Costs

/-- C04.  Replacing the partial rows of a rejected security by any other rows, or dropping the
    security altogether, changes nothing in the aggregate gains (for every year and in total), for
    all hash orders. -/
theorem C04_rejected_not_in_totals (yearOf : Int → Int) (rs1 rs2 : List SecResult) (rows rows' : List GRow)
    (σ : List CG → List CG) (ρ : List Int → List Int) :
    aggGains σ ρ (completed yearOf (rs1 ++ { ok := false, rows := rows } :: rs2)) =
      aggGains σ ρ (completed yearOf (rs1 ++ rs2)) ∧
    completed yearOf (rs1 ++ { ok := false, rows := rows } :: rs2) =
      completed yearOf (rs1 ++ { ok := false, rows := rows' } :: rs2) := by
  have h : ∀ rws, completed yearOf (rs1 ++ { ok := false, rows := rws } :: rs2) = completed yearOf (rs1 ++ rs2) := by
    intro rws
    rw [completed_append, completed_cons_failed yearOf rfl, completed_append]
  exact ⟨by rw [h], by rw [h, h]⟩

/-- … and the table of the rejected security itself carries no yearly or overall total. -/
theorem C04_rejected_table_has_no_totals (yearOf : Int → Int) (rows : List GRow) :
    (tableGains yearOf { ok := false, rows := rows }).years = [] ∧
    (tableGains yearOf { ok := false, rows := rows }).total = 0 := by
  simp [tableGains, CG.empty]

example : completed (fun _ => 2020) [{ ok := true, rows := [⟨1, some 5⟩] }, { ok := false, rows := [⟨2, some 7⟩] }] =
    completed (fun _ => 2020) [{ ok := true, rows := [⟨1, some 5⟩] }] := by simp [completed]

end Acb
