/-
  C04 / C05 at the level of the application pipeline: the only failure of a security besides the
  ledger's own is the split validation's, a user-facing error.
-/
import AcbModel.Lemmas.SecTxs
import AcbModel.Props.C05
namespace Acb
open Spec

/-- C04/C05 (pipeline level).  For every input and every security with rows whose opening
    position is well formed: no reported row shows a negative share balance, total or cost base,
    and the security's failure, if any, is a user-facing error — never a panic site of the
    bookkeeping core. -/
theorem C04_pipeline (dflt : Aff) (inits : Nat → Option Status) (rows : List PRow)
    (hv : ∀ r ∈ rows, r.tx.Valid) (s : Nat) (hs : ∃ r ∈ rows, r.sec = s) (hi : InitOk dflt (inits s)) :
    ∃ ds f, resultFor s (runPipeline dflt inits rows) = some (ds, f) ∧
      (∀ d ∈ ds, 0 ≤ d.post.shares ∧ 0 ≤ d.post.all ∧ ∀ c, d.post.acb = some c → 0 ≤ c) ∧
      (∀ site, f ≠ some (.panic site)) := by
  rcases pipeline_history_valid dflt inits hv s hs with h | ⟨hvt, _, h⟩
  · exact ⟨[], _, h, by simp, by intro site h'; cases h'⟩
  · exact ⟨_, _, h, C04_nonneg dflt (inits s) _ hvt hi, C05_core_no_panic dflt (inits s) _ hvt hi⟩

end Acb
