/-
  C18 — Questrade conversion keeps every trade and conserves USD cash.  The model is that of the
  repaired code (F-18 header numbering, F-05c zero FXT leg, F-18b --usd-exchange-rate); there is no
  bound on rows or columns, and every option combination is covered.
-/
import AcbModel.Lemmas.QtAccept
import AcbModel.Lemmas.QtExample
namespace Acb
open Acb.Qt Acb.Qt.Ex

/-- The tables the model takes from the source (regenerated on every run): the trade / conversion /
    dividend actions and the documented non-trade activities are the ones the property names. -/
theorem C18_action_tables :
    Gen.qtAllowedActions = ["BUY", "SELL", "DIS", "LIQ", "FXT", "DIV"] ∧
    Gen.qtIgnoredActions = ["BRW", "TFI", "TF6", "MGR", "DEP", "NAC", "CON", "INT", "EFT", "RDM", ""] ∧
    Gen.qtRegisteredRegex = "rrsp|tfsa|resp" ∧
    Gen.qtFxTiebreakBuy < Gen.qtFxTiebreakSell ∧
    Gen.qtHeaderEnumerateBeforeFilter = "enumerate" :=
  ⟨rfl, rfl, rfl, by decide, rfl⟩

/-- Lookup by name returns the cell under that header, for any position of the column and
    whatever the other header cells are (blank, numbers, other names). -/
theorem C18_lookup_by_name (hdr row : List Cell) (name : String) (i : Nat) (c : Cell)
    (hi : hdr[i]? = some (Cell.str name))
    (hu : ∀ j : Nat, hdr[j]? = some (Cell.str name) → j = i)
    (hc : row[i]? = some c) : cellAt hdr row name = .ok c :=
  cellAt_of_unique hi hu hc

example : cellAt [.empty, .str "Action", .num 3 "3", .str "Symbol"] [.str "x", .str "BUY", .empty, .str "CCO"] "Symbol"
    = .ok (.str "CCO") := by decide

/-- Even with repeated names the reader never points anywhere but at a column headed by that name
    (the last such column, as `HashMap::from_iter` keeps the last). -/
theorem C18_lookup_points_at_header (hdr : List Cell) (name : String) (i : Nat)
    (h : headerIndex hdr name = some i) :
    hdr[i]? = some (Cell.str name) ∧ ∀ j : Nat, i < j → hdr[j]? ≠ some (Cell.str name) :=
  headerIndex_eq_some_iff.mp h

example : headerIndex [.str "A", .empty, .str "A"] "A" = some 2 := by decide

/-- The defect of the shipped reader (F-18): numbering the header cells after the non-text
    cells have been dropped points at the wrong column as soon as a blank header cell precedes
    the named one — `C18_lookup_by_name` is false of it. -/
theorem C18_shipped_header_reader_defect :
    ∃ (hdr : List Cell) (name : String) (i : Nat),
      hdr[i]? = some (Cell.str name) ∧ (∀ j : Nat, hdr[j]? = some (Cell.str name) → j = i) ∧
      headerIndexShipped hdr name ≠ some i ∧ headerIndex hdr name = some i := by
  refine ⟨[.empty, .str "Action"], "Action", 1, by decide, ?_, by decide, by decide⟩
  intro j hj
  match j, hj with
  | 0, hj => simp at hj
  | 1, _ => rfl
  | (k + 2), hj => simp at hj

/-- The shipped reader is right when every header cell is text (the only case the tests cover). -/
theorem C18_shipped_header_reader_ok_on_text_headers (hdr : List Cell) (name : String)
    (hall : ∀ c ∈ hdr, c.isStr = true) : headerIndexShipped hdr name = headerIndex hdr name := by
  unfold headerIndexShipped
  rw [List.filter_eq_self.mpr hall]

example : ∀ c ∈ stdHdr, c.isStr = true := by decide

/-- The output depends only on the cell found under each named header.  Two sheets that lay
    out the same records — in any column order, with any unrelated or blank-headed columns —
    convert to the same rows, the same errors and the same final output, for every option
    combination. -/
theorem C18_layout_independent (o : Opts) (recs : List Record) (s s' : Sheet)
    (h : IsLayout usedNames recs s) (h' : IsLayout usedNames recs s') :
    sheetToTxs s = sheetToTxs s' ∧ convert o s = convert o s' := by
  have e : sheetToTxs s = sheetToTxs s' := by
    rw [sheetToTxs_of_layout h, sheetToTxs_of_layout h']
  exact ⟨e, by rw [convert, convert, e]⟩

example : IsLayout usedNames recs sheetA := layoutA
example : IsLayout usedNames recs sheetB := layoutB
example : sheetA.hdr ≠ sheetB.hdr ∧ ((sheetToTxs sheetA).txs.length = 5) := by
  rw [sheetToTxs_sheetA]
  decide

theorem C18_layout_is_records (o : Opts) (recs : List Record) (s : Sheet)
    (h : IsLayout usedNames recs s) :
    convert o s = pipeline o (convertReaders (recs.map Record.reader)) := by
  unfold convert
  rw [sheetToTxs_of_layout h]

/-- Inserting, at any position, a column whose header cell is not one of the used names (a blank
    cell, a number, any other text), with arbitrary content, changes nothing. -/
theorem C18_extra_or_blank_column (o : Opts) (recs : List Record) (s : Sheet)
    (h : IsLayout usedNames recs s) (hrect : ∀ r ∈ s.rows, r.length = s.hdr.length)
    (k : Nat) (hk : k ≤ s.hdr.length) (hc : Cell) (hh : ∀ n ∈ usedNames, hc ≠ Cell.str n)
    (fill : Nat → Cell) :
    convert o (s.withColumn k hc fill) = convert o s :=
  -- `hrect` and `hk` are not used: rows of any length, and a position past the end appends
  (C18_layout_independent o recs _ _ (h.withColumn k hc hh fill) h).2

example : ∀ n ∈ usedNames, Cell.empty ≠ Cell.str n := by decide
example : ∀ r ∈ sheetA.rows, r.length = sheetA.hdr.length := by decide +kernel

/-- One row per BUY/SELL/DIS/LIQ activity, in row order: the non-FX rows are exactly the
    trade rows of the data rows (row numbers start at 2, the header being row 1) — for every
    export, whether or not other rows are in error. -/
theorem C18_one_row_per_trade (s : Sheet) :
    (sheetToTxs s).trades = tradesFrom 2 (s.rows.map (fun row => cellAt s.hdr row)) := by
  unfold sheetToTxs
  exact convertReaders_trades _

example : ((sheetToTxs sheetA).trades.map (·.row)) = [2, 7] := by
  rw [sheetToTxs_sheetA]
  rfl

/-- Every emitted trade row stems from one data row whose action is BUY/SELL/DIS/LIQ
    (case-insensitive) and carries that row's dates, |quantity|, price, |commission|, currency,
    account and account-derived affiliate, each read from the cell under the named header
    (`TradeFields`). -/
theorem C18_fields (s : Sheet) (t : BTx) (h : t ∈ (sheetToTxs s).trades) :
    ∃ (k : Nat) (row : List Cell), s.rows[k]? = some row ∧ TradeFields (cellAt s.hdr row) (2 + k) t := by
  rw [C18_one_row_per_trade] at h
  obtain ⟨k, rd, hk, hp⟩ := mem_tradesFrom.mp h
  simp only [List.getElem?_map, Option.map_eq_some_iff] at hk
  obtain ⟨row, hrow, rfl⟩ := hk
  exact ⟨k, row, hrow, parseRow_trade hp⟩

example : (tradeOf 2 rdBuy).map (fun t => (t.shares, t.commission, t.registered, t.currency, t.side)) =
    some (5/2, 99/20, true, "USD", Side.buy) := by decide +kernel

/-- No trade activity is lost in silence: a BUY/SELL/DIS/LIQ row yields its trade row or is
    reported as a row error (this is what the shipped header reader violated). -/
theorem C18_trade_row_emitted_or_reported (rd : Reader) (n : Nat) (a : String)
    (hA : rd.getStr "Action" = .ok a) (hT : (tradeSide (upper a)).isSome = true) :
    (∃ t, parseRow rd n = .ok (.trade t)) ∨ (∃ e, parseRow rd n = .error e) :=
  parseRow_trade_action hA hT

example : rdBuy.getStr "Action" = .ok "Buy" ∧ (tradeSide (upper "Buy")).isSome = true := by decide +kernel

/-- In an export converted without row errors, every trade activity has its row. -/
theorem C18_error_free_export_keeps_every_trade (rds : List Reader)
    (h : (convertReaders rds).errors = []) (k : Nat) (rd : Reader) (hk : rds[k]? = some rd) (a : String)
    (hA : rd.getStr "Action" = .ok a) (hT : (tradeSide (upper a)).isSome = true) :
    ∃ t, tradeOf (2 + k) rd = some t ∧ t ∈ (convertReaders rds).trades ∧ t.row = 2 + k :=
  (convertReaders_trade_or_error hk hA hT).resolve_right fun ⟨_, he⟩ => by simp [h] at he

example : (convertReaders (recs.map Record.reader)).errors = [] := by
  rw [convertReaders_recs]
  rfl

/-- A row whose action is one of the documented non-trade activities (any letter case, including the
    empty action) produces no row and no error, whatever its other cells hold — even if they are
    missing or malformed. -/
theorem C18_ignored (rd : Reader) (n : Nat) (a : String) (st : St)
    (hA : rd.getStr "Action" = .ok a) (hI : Gen.qtIgnoredActions.contains (upper a) = true) :
    stepRow st n rd = st := by
  unfold stepRow
  rw [parseRow_ignored hA hI]
  rfl

example : Gen.qtIgnoredActions.contains (upper "dep") = true := by decide

/-- … and nothing else is passed over: a row that yields neither a row nor an error is a
    documented non-trade activity or a dividend that is not in USD. -/
theorem C18_only_documented_rows_are_skipped (rd : Reader) (n : Nat) (h : parseRow rd n = .ok .skip) :
    ∃ a, rd.getStr "Action" = .ok a ∧
      (Gen.qtIgnoredActions.contains (upper a) = true ∨
       (upper a = "DIV" ∧ ∃ cur, rd.getStr "Currency" = .ok cur ∧ upper cur ≠ "USD")) :=
  parseRow_ok h

example : parseRow ((recs.getD 1 default)).reader 3 = .ok .skip := by decide +kernel

/-- For every export converted without row errors and every set `p` of accounts (`--account` selects
    such a set): the signed share total of the USD.FX rows of those accounts equals the net USD cash
    flow of their rows — USD trades (`±price·|quantity| − |commission|`), USD dividends (net amount)
    and the USD legs of the currency conversions.  Proved through an invariant of the row loop
    (`runRows_cash`) that also accounts for a pending first FXT leg. -/
theorem C18_cash_conservation (p : Account → Bool) (rds : List Reader)
    (h : (convertReaders rds).errors = []) :
    fxSum p (convertReaders rds).fx = cashFrom p 2 rds := by
  obtain ⟨h0, hadj⟩ := finish_errors_nil h
  have inv := runRows_cash p {} 2 rds h0
  rwa [Tracker.booked_of_none p hadj, Tracker.booked_init, Rat.zero_add] at inv

example : fxSum (fun _ => true) (convertReaders (recs.map Record.reader)).fx = -2995/100 + 100 + 61/2 := by
  rw [convertReaders_recs]
  decide +kernel

theorem C18_cash_conservation_sheet (p : Account → Bool) (s : Sheet) (h : (sheetToTxs s).errors = []) :
    fxSum p (sheetToTxs s).fx = cashFrom p 2 (s.rows.map (fun row => cellAt s.hdr row)) :=
  C18_cash_conservation p _ h

/-- With the FX rows left in (no `--no-fx`, no `--security` filter), whatever `--account`,
    `--no-sort` and `--usd-exchange-rate` are: the signed shares of the `USD.FX` rows of the output
    add up to the net USD cash flow of the rows of the selected accounts (all accounts without
    `--account`) — provided the export converts without row errors and none of its securities is
    itself called `USD.FX`. -/
theorem C18_cash_conservation_output (o : Opts) (rds : List Reader) (txs : List BTx)
    (errs : List (Nat × ErrKind)) (h : pipeline o (convertReaders rds) = .out txs errs)
    (herr : errs = []) (hsec : o.security = none) (hfx : o.noFx = false)
    (hsym : ∀ t ∈ (convertReaders rds).trades, t.security ≠ "USD.FX") :
    usdFxTotal txs = cashFrom (acctPred o) 2 rds := by
  have he : (convertReaders rds).errors = [] := (pipeline_out h).1 ▸ herr
  rw [usdFxTotal_perm (pipeline_perm h), usdFxTotal_selected o hsec hfx, Conv.txs, List.filter_append,
      List.filter_eq_nil_iff.mpr (by simpa using hsym),
      List.filter_eq_self.mpr (fun t ht => by simpa using (convertReaders_fx_mem ht).1.security)]
  exact C18_cash_conservation (acctPred o) rds he

example : (pipeline { account := some (fun a => a == "Individual TFSA 10000001"), usdRate := some (3/2), noSort := true }
            (convertReaders (recs.map Record.reader))).txs?.map usdFxTotal = some (-2995/100 + 100 + 61/2) ∧
    ∀ t ∈ (convertReaders (recs.map Record.reader)).trades, t.security ≠ "USD.FX" := by
  rw [convertReaders_recs]
  decide +kernel

/-- What the summands are: a trade row moves `±price·shares − commission` …
    (`shares`, `commission` being the absolute values of the cells, `C18_fields`) -/
theorem C18_cash_of_trade (p : Account → Bool) (t : BTx) :
    rowCash p (.trade t) =
      if t.currency = "USD" ∧ p t.account then
        (if t.side = .buy then -(t.price * t.shares) else t.price * t.shares) - t.commission
      else 0 := rfl

/-- … a USD dividend row its net amount … -/
theorem C18_cash_of_dividend (p : Account → Bool) (rd : Reader) (n : Nat) (t : BTx)
    (h : parseRow rd n = .ok (.income t)) :
    ∃ amt, rd.getDec "Net Amount" = .ok amt ∧ rowCash p (.income t) = if p t.account then amt else 0 := by
  obtain ⟨_, amt, hamt, hss⟩ := parseRow_income h
  exact ⟨amt, hamt, by rw [rowCash, hss]⟩

/-- … an FXT row the net amount of its USD leg. -/
theorem C18_cash_of_fxt (p : Account → Bool) (rd : Reader) (n : Nat) (r : FxtRow)
    (h : parseRow rd n = .ok (.fxt r)) :
    rd.getDec "Net Amount" = .ok r.amount ∧
    rowCash p (.fxt r) = if r.currency = "USD" ∧ p r.account then r.amount else 0 :=
  ⟨parseRow_fxt h, rfl⟩

/-- When the second row of an FXT pair is accepted, exactly one USD.FX row is added; one leg is CAD
    and the other USD, neither amount is zero (that date, account and affiliate agree is in
    `Paired`, not in this statement); the row buys (sells) |USD leg| shares when USD came in (went
    out), at the rate `|CAD leg / USD leg|`, which is positive — so that rate × shares is exactly
    the CAD leg. -/
theorem C18_implied_rate (t t' : Tracker) (adj r : FxtRow) (hadj : t.adjacent = some adj)
    (h : addFxtRow t r = (t', none)) :
    ∃ tx, t'.txs = t.txs ++ [tx] ∧ t'.adjacent = none ∧
      (fxtCad adj r).currency = "CAD" ∧ (fxtOther adj r).currency = "USD" ∧
      (fxtCad adj r).amount ≠ 0 ∧ (fxtOther adj r).amount ≠ 0 ∧
      tx.rate = some (rabs ((fxtCad adj r).amount / (fxtOther adj r).amount)) ∧
      0 < rabs ((fxtCad adj r).amount / (fxtOther adj r).amount) ∧
      tx.shares = rabs (fxtOther adj r).amount ∧ signedShares tx = (fxtOther adj r).amount ∧
      rabs ((fxtCad adj r).amount / (fxtOther adj r).amount) * tx.shares = rabs (fxtCad adj r).amount := by
  rcases addFxtRow_second (r := r) hadj with ⟨tx, hp, ht⟩ | ⟨e, he⟩
  · cases ht.symm.trans h
    exact ⟨tx, rfl, rfl, hp.cadCur, hp.usdCur, hp.cadNe, hp.usdNe, hp.tx_rate, hp.rate_pos, hp.tx_shares,
      hp.tx_signedShares, hp.rate_mul_shares⟩
  · cases he.symm.trans h

example : (addFxtRow { adjacent := some cadLeg, txs := [] } usdLeg).2 = none ∧
    (addFxtRow { adjacent := some cadLeg, txs := [] } usdLeg).1.txs.map (fun t => (t.rate, t.shares)) =
      [(some (13/10), 100)] := by decide +kernel

/-- The rate option never replaces a rate a row already carries (F-18b), and no option touches
    the other fields: every output row is a converted row, with at most its missing USD rate
    filled in. -/
theorem C18_options_keep_rows (o : Opts) (c : Conv) (txs : List BTx) (errs : List (Nat × ErrKind))
    (h : pipeline o c = .out txs errs) (t : BTx) (ht : t ∈ txs) :
    ∃ t0 ∈ c.txs, keeps o t0 = true ∧ t = rated o t0 ∧
      (∀ x, t0.rate = some x → t.rate = some x) ∧
      t.security = t0.security ∧ t.shares = t0.shares ∧ t.price = t0.price ∧
      t.commission = t0.commission ∧ t.currency = t0.currency ∧ t.side = t0.side ∧
      t.tradeDate = t0.tradeDate ∧ t.settleDate = t0.settleDate ∧ t.registered = t0.registered := by
  obtain ⟨t0, hmem, hkeep, rfl⟩ := pipeline_mem h ht
  refine ⟨t0, hmem, hkeep, rfl, fun _ hx => rated_keeps_rate o hx, ?_⟩
  rw [rated_eq]
  exact ⟨rfl, rfl, rfl, rfl, rfl, rfl, rfl, rfl, rfl⟩

/-- … and conversely every converted row the filters keep is in the output exactly as often. -/
theorem C18_output_is_selection (o : Opts) (c : Conv) (txs : List BTx) (errs : List (Nat × ErrKind))
    (h : pipeline o c = .out txs errs) :
    errs = c.errors ∧ txs.Perm ((c.txs.filter (keeps o)).map (rated o)) ∧
    (o.noSort = true → txs = (c.txs.filter (keeps o)).map (rated o)) := by
  refine ⟨(pipeline_out h).1, pipeline_perm h, fun hs => ?_⟩
  rw [(pipeline_out h).2, if_pos hs]
  rfl

example : (convert { usdRate := some (3/2), noSort := true } sheetA).txs?.map (fun l => l.map (·.rate)) =
    some [some (3/2), none, some (3/2), some (13/10), some (3/2)] := by
  rw [convert, sheetToTxs_sheetA]
  decide +kernel

/-- The comparator of `BrokerTx` is a total preorder (reflexive, transitive, total, and
    antisymmetric in the sense `cmp a b = (cmp b a).swap`): it is the lexicographic order on
    (settlement date, settlement date-and-time text, tiebreak with "none" first, row number).
    Hence the stable `sort` has a single possible result, whatever algorithm `Vec::sort` uses. -/
theorem C18_order_is_total_preorder :
    (∀ a, leBTx a a = true) ∧
    (∀ a b c, leBTx a b = true → leBTx b c = true → leBTx a c = true) ∧
    (∀ a b, (leBTx a b || leBTx b a) = true) ∧
    (∀ a b, cmpBTx a b = (cmpBTx b a).swap) ∧
    (∀ a b, cmpBTx a b = .eq ↔ a.settleDate = b.settleDate ∧ a.settleStr = b.settleStr ∧
        a.tiebreak = b.tiebreak ∧ a.row = b.row) :=
  ⟨leBTx_refl, leBTx_trans, leBTx_total, cmpBTx_swap, cmpBTx_eq_iff⟩

/-- Unless `--no-sort` is given the output is sorted by that order (settlement date first; on
    one day and time, trades before FX purchases before FX sales) and is a permutation of the
    selected rows. -/
theorem C18_sorted_output (o : Opts) (c : Conv) (txs : List BTx) (errs : List (Nat × ErrKind))
    (h : pipeline o c = .out txs errs) (hs : o.noSort = false) :
    txs.Pairwise (fun a b => leBTx a b = true) ∧ txs.Perm ((c.txs.filter (keeps o)).map (rated o)) :=
  ⟨pipeline_sorted h hs, pipeline_perm h⟩

example : ∃ txs errs, pipeline { account := some (fun _ => true) } (sheetToTxs sheetA) = .out txs errs ∧
    ({ account := some (fun _ => true) } : Opts).noSort = false := ⟨_, _, rfl, rfl⟩
/- on one day and time: a trade (no tiebreak) sorts before an FX purchase, which sorts before an FX sale -/
example : ((sheetToTxs sheetA).txs.map (fun t => (t.security, t.row, t.side))) =
      [("UCO", 2, .buy), ("CCO", 7, .sell), ("USD.FX", 2, .sell), ("USD.FX", 5, .buy), ("USD.FX", 6, .buy)] ∧
    leBTx (txA 3) (txA 2) = true ∧ leBTx (txA 2) (txA 3) = false ∧
    leBTx (txA 1) (txA 4) = true ∧ leBTx (txA 4) (txA 1) = false := by
  simp only [txA, sheetToTxs_sheetA]
  decide +kernel

/-- Whatever the export and the options (a given `--usd-exchange-rate` being positive): every
    emitted row has a security, non-negative shares and commission, and an exchange rate only if it
    is positive and the row is in USD; so a row with a non-zero share count, a non-negative price
    and CAD or USD as currency passes `load_tx_rates` and `Tx::try_from`. -/
theorem C18_accepted_by_acb (o : Opts) (rds : List Reader) (txs : List BTx)
    (errs : List (Nat × ErrKind)) (h : pipeline o (convertReaders rds) = .out txs errs)
    (hr : ∀ r, o.usdRate = some r → 0 < r) (t : BTx) (ht : t ∈ txs)
    (hsh : t.shares ≠ 0) (hp : 0 ≤ t.price) (hc : t.currency = "CAD" ∨ t.currency = "USD") :
    AcbAccepts t := by
  obtain ⟨t0, hmem, _, rfl⟩ := pipeline_mem h ht
  exact accepts_of_shape (rated_shape hr (convertReaders_shape hmem)) hsh hp hc

/-- For the generated USD.FX rows the side conditions hold by construction, except for a dividend
    whose net amount is zero: an FX row is `USD.FX` at price 1 in USD without commission, and its
    share count is non-zero unless it is the row of a dividend (whose count is |net amount|). -/
theorem C18_fx_rows_well_formed (rds : List Reader) (t : BTx) (h : t ∈ (convertReaders rds).fx) :
    t.security = "USD.FX" ∧ t.currency = "USD" ∧ t.price = 1 ∧ t.commission = 0 ∧
    (t.shares ≠ 0 ∨ t ∈ incomesFrom 2 rds) := by
  obtain ⟨hf, hsh⟩ := convertReaders_fx_mem h
  exact ⟨hf.security, hf.currency, hf.price, hf.commission, hsh⟩

example : (convert { noSort := true } sheetB).txs?.map (fun l => (l.length, l.all (fun t =>
    decide (t.shares ≠ 0 ∧ 0 ≤ t.price ∧ (t.currency = "CAD" ∨ t.currency = "USD"))))) = some (5, true) := by
  rw [convert, sheetToTxs_sheetB]
  decide +kernel

end Acb
