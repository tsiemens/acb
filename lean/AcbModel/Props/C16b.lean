/-
  C16 — `--symbol-base` equals an opening purchase, at the level of the application pipeline
  (split validation, expansion of splits for all affiliates, ledger).
-/
import AcbModel.Props.C16
namespace Acb

/-- the opening purchase as a parsed row of security `s` -/
def openingRow (s : Nat) (dflt : Aff) (n c : Rat) (day : Int) : PRow :=
  { sec := s, glob := false, tx := openingBuy dflt n c day }

/-- C16 (pipeline level).  For the sorted rows `R ≠ []` of one security, a positive share
    count `n`, any cost `c`, and an opening purchase by the default affiliate dated more than 30
    days before every later sale: processing `opening purchase :: R` with no opening position gives
    — unless the security is rejected by the split validation, in both forms alike — the
    purchase's own row followed by exactly the rows, and the same failure, that processing `R` with
    the opening position `SYM:n:c` gives; including the expansion of splits for all affiliates,
    which reaches the default affiliate in both forms.  (Affiliate ids are distinct keys.) -/
theorem C16_pipeline (dflt : Aff) (hd : dflt.registered = false) (s : Nat) (n c : Rat) (hn : 0 < n) (day : Int)
    (R : List PRow) (hne : R ≠ [])
    (hfar : ∀ r ∈ R, FarBefore (openingBuy dflt n c day) r.tx)
    (hk : ∀ x ∈ dflt :: nonGlobalAffs R, ∀ y ∈ dflt :: nonGlobalAffs R, x.key = y.key → x = y) :
    secResultSorted dflt none (openingRow s dflt n c day :: R) =
      (match replaceGlobalSplits dflt [dflt] R with
       | none => ([], some (.err .splitConflict))
       | some _ =>
         ({ tx := openingBuy dflt n c day, pre := defaultStatus dflt, post := openingStatus n c,
            gain := none, sfl := none } :: (secResultSorted dflt (some (openingStatus n c)) R).1,
          (secResultSorted dflt (some (openingStatus n c)) R).2)) := by
  -- `hne` is not used: with no rows after the purchase both sides are the purchase's row alone
  have hb : (openingRow s dflt n c day).tx.act.isSplit = false := rfl
  rw [secResultSorted_eq, splitConflict_cons_of_not_split hb R]
  by_cases hconf : splitConflict [] R = true
  · rw [if_pos hconf, replaceGlobalSplits_eq, if_pos hconf]
  · rw [if_neg hconf, replaceGlobalSplits_eq, if_neg hconf, secResultSorted_eq, if_neg hconf]
    simp only [Option.isSome_none, Option.isSome_some, Bool.false_eq_true, if_false, if_true]
    rw [splitAffs_opening dflt rfl rfl R hk, expandSplits_cons_of_not_split hb]
    exact deltaList_opening dflt hd n c (Rat.ne_of_gt hn) day _ (expandSplits_forall hfar (fun _ _ _ _ h => h))

/-! Non-vacuity (the constellation of finding F-16): the security's rows are the spouse's only — a
    purchase, a 2-for-1 split for all affiliates, a sale — and the default affiliate's holding comes
    from the opening position 10 shares / $50.  In both forms the split reaches the default
    affiliate (10 → 20 shares). -/
private def d0 : Aff := ⟨0, false⟩
private def sp : Aff := ⟨1, false⟩
private def rowsX : List PRow := [
  { sec := 0, glob := false, tx := { trade := 100, settle := 100, idx := 1, aff := sp, act := .buy 5 10 0 1 none } },
  { sec := 0, glob := true,  tx := { trade := 120, settle := 120, idx := 2, aff := d0, act := .split 2 1 false } },
  { sec := 0, glob := false, tx := { trade := 150, settle := 150, idx := 3, aff := sp, act := .sell 4 6 0 1 none none } } ]

example : secResultSorted d0 none (openingRow 0 d0 10 50 0 :: rowsX) =
    ({ tx := openingBuy d0 10 50 0, pre := defaultStatus d0, post := openingStatus 10 50, gain := none, sfl := none } ::
        (secResultSorted d0 (some (openingStatus 10 50)) rowsX).1,
      (secResultSorted d0 (some (openingStatus 10 50)) rowsX).2) := by
  have h := C16_pipeline d0 rfl 0 10 50 (by decide) 0 rowsX (by simp [rowsX])
    (by
      intro r hr sh px comm rate crate spec hact
      simp only [rowsX, List.mem_cons, List.mem_nil_iff, or_false] at hr
      rcases hr with rfl | rfl | rfl <;> simp [openingBuy, Gen.sflWindowBeforeDays] at hact ⊢)
    (by decide)
  have hc : replaceGlobalSplits d0 [d0] rowsX ≠ none := by decide +kernel
  cases hq : replaceGlobalSplits d0 [d0] rowsX with
  | none => exact absurd hq hc
  | some txs =>
    rw [hq] at h
    exact h

/-- the default affiliate's split row is there, with the doubled balance -/
example : ((secResultSorted d0 (some (openingStatus 10 50)) rowsX).1.map (fun d => (d.tx.aff.key, d.post.shares))) =
    [(1, 5), (0, 20), (1, 10), (1, 6)] := by decide +kernel

end Acb
