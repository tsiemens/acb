/-
  C19 — E*TRADE extraction accounts for every benefit and every sold share once.  Domain: pairwise
  different trade confirmations (`trades.Nodup`; the same file given twice: counterexample at the end).
  Only `C19_partition` uses the hypothesis; the other statements carry it without needing it.
-/
import AcbModel.Lemmas.Etrade
namespace Acb
open Etrade

/-- the window the theorems speak about is the one in the source -/
theorem C19_window_is_five_days : Gen.stcWindowDays = 5 := by decide

/-- The Buy rows of the output are, up to order, exactly one per benefit confirmation: the
    released / purchased / exercised shares at the stated fair market value, dated (trade and
    settlement) at the benefit date, with no commission. -/
theorem C19_one_buy_per_benefit (benefits : List Benefit) (trades : List Trade) (rows : List Row)
    (hn : trades.Nodup) (h : run benefits trades = .ok rows) :
    (rows.filter isBuySrc).Perm (expectedBuys 0 benefits) := by
  obtain ⟨bs', left, matched, _, hinv, hrows⟩ := run_ok_spec h
  rw [← expectedBuys_undated, ← hinv.keep, expectedBuys_undated]
  exact hrows.buys

/-- Every trade confirmation is used exactly once.  With pairwise different confirmations,
    the trades are a permutation of (the sets matched to the sell-to-covers) ⊎ (the left-overs). -/
theorem C19_partition (benefits bs' : List Benefit) (trades left : List Trade) (matched : List (Nat × List Trade))
    (hn : trades.Nodup) (h : amend benefits trades = .ok bs' left matched) :
    trades.Perm ((matched.map (·.2)).flatten ++ left) :=
  (amend_ok_inv h).perm hn

/-- … the left-overs are exactly the "(manual trade)" rows of the output, each with its own
    security, dates, action, quantity, price and fees … -/
theorem C19_manual_rows (benefits : List Benefit) (trades : List Trade) (rows : List Row)
    (h : run benefits trades = .ok rows) :
    ∃ bs' left matched, amend benefits trades = .ok bs' left matched ∧
      (rows.filterMap manualOf).Perm left ∧
      ∀ r ∈ rows, ∀ t, r.src = .manual t → r = manualRow r.readIdx t := by
  obtain ⟨bs', left, matched, ha, _, hrows⟩ := run_ok_spec h
  refine ⟨bs', left, matched, ha, hrows.manual, fun r hr t ht => ?_⟩
  obtain ⟨b, j, _, rfl | ⟨s, _, rfl⟩⟩ | ⟨t', idx, _, rfl⟩ := hrows.origin r hr
  · cases ht
  · cases ht
  · cases ht
    rfl

/-- … and every matched set appears as exactly one sell-to-cover sale of its benefit: the
    benefit's security, a Sell of the set's total share count (= the benefit's sold shares), dated
    as the first matched trade, at the price and fee stated on the benefit confirmation. -/
theorem C19_stc_rows (benefits : List Benefit) (trades : List Trade) (rows : List Row)
    (hn : trades.Nodup) (h : run benefits trades = .ok rows) :
    ∃ bs' left matched, amend benefits trades = .ok bs' left matched ∧
      (rows.filterMap stcIdxOf).Perm (matched.map (·.1)) ∧ (matched.map (·.1)).Nodup ∧
      ∀ r ∈ rows, ∀ i, r.src = .stc i → ∃ b m t0 rest, benefits[i]? = some b ∧ (i, m) ∈ matched ∧
        m = t0 :: rest ∧ r.sec = b.sec ∧ r.act = .sell ∧ r.shares = sumShares m ∧
        r.tradeDate = t0.tradeDate ∧ r.settle = t0.settle ∧
        b.stcPrice = some r.price ∧ b.stcFee = some r.comm := by
  obtain ⟨bs', left, matched, ha, hinv, hrows⟩ := run_ok_spec h
  -- no error was recorded, so the matched indexes are those of the benefits with sold shares
  have hidx : matched.map (·.1) = expectedStcIdx 0 bs' := hinv.idx rfl
  refine ⟨bs', left, matched, ha, hidx ▸ hrows.stc, hidx ▸ (expectedStcIdx_lt 0 bs').imp Nat.ne_of_lt,
    fun r hr i hi => ?_⟩
  have hi' : i ∈ matched.map (·.1) :=
    hidx ▸ hrows.stc.subset (List.mem_filterMap.mpr ⟨r, hr, stcIdxOf_eq_some.mpr hi⟩)
  obtain ⟨⟨_, m⟩, him, rfl⟩ := List.mem_map.mp hi'
  obtain ⟨b, b', hb, hb', hok, _⟩ := hinv.ok _ him
  obtain ⟨d, e, hde⟩ := hinv.done_of_pre hb
  cases hb'.symm.trans hde
  obtain ⟨b'', j, hj, rfl | ⟨s, hs, rfl⟩⟩ | ⟨t', idx, _, rfl⟩ := hrows.origin r hr
  · cases hi
  · cases hi
    cases hb'.symm.trans hj
    have hf := stcData_some hs
    obtain ⟨t0, rest, hm, hd1, hd2⟩ := hok.dated
    -- the row is read off the amended benefit (`hf`), which is `b` dated by the set (`hd*`)
    exact ⟨b, m, t0, rest, hb, him, hm, rfl, rfl, Option.some.inj (hf.shares.symm.trans hok.sum),
      Option.some.inj (hf.txDate.symm.trans hd1), Option.some.inj (hf.settle.symm.trans hd2), hf.price, hf.fee⟩
  · cases hi

/-- A matched set is a real sell-to-cover of its benefit: trade confirmations (a sub-sequence
    of the input) of the same security, all Sells, traded on the benefit date or at most five days
    later, share counts adding up to the benefit's sold shares; the benefit's sale is dated as the
    first of them. -/
theorem C19_matched_ok (benefits bs' : List Benefit) (trades left : List Trade) (matched : List (Nat × List Trade))
    (hn : trades.Nodup) (h : amend benefits trades = .ok bs' left matched) :
    ∀ im ∈ matched, ∃ b b', benefits[im.1]? = some b ∧ bs'[im.1]? = some b' ∧ im.2.Sublist trades ∧
      (∀ t ∈ im.2, t.sec = b.sec ∧ t.act = .sell ∧ b.acqDate ≤ t.tradeDate ∧ t.tradeDate ≤ b.acqDate + 5) ∧
      b.stcShares = some (sumShares im.2) ∧
      ∃ t0 rest, im.2 = t0 :: rest ∧ b'.stcTxDate = some t0.tradeDate ∧ b'.stcSettle = some t0.settle := by
  intro im him
  obtain ⟨b, b', hb, hb', hok, hsub⟩ := (amend_ok_inv h).ok im him
  exact ⟨b, b', hb, hb', hsub,
    fun t ht => ⟨hok.sec t ht, hok.sell t ht, C19_window_is_five_days ▸ hok.window t ht⟩, hok.sum, hok.dated⟩

/-- An unmatched sell-to-cover is an error, not a guess.  If, for some benefit with sold
    shares, no set of trade confirmations of its security sold within the window adds up to the
    sold shares, the tool produces no output at all. -/
theorem C19_unmatched_is_error (benefits : List Benefit) (trades : List Trade) (hn : trades.Nodup)
    (i : Nat) (b : Benefit) (sold : Rat) (hb : benefits[i]? = some b) (hs : b.stcShares = some sold)
    (hno : ∀ m : List Trade, m.Sublist trades → m ≠ [] →
      (∀ t ∈ m, t.sec = b.sec ∧ t.act = .sell ∧ b.acqDate ≤ t.tradeDate ∧ t.tradeDate ≤ b.acqDate + 5) →
      sumShares m ≠ sold) :
    ∀ rows, run benefits trades ≠ .ok rows := by
  intro rows h
  obtain ⟨bs', left, matched, ha, hinv, _⟩ := run_ok_spec h
  obtain ⟨d, e, hde⟩ := hinv.done_of_pre hb
  have hi : i ∈ matched.map (·.1) := by
    rw [hinv.idx rfl]
    exact mem_expectedStcIdx.mpr ⟨_, hde, hs ▸ rfl⟩
  obtain ⟨⟨_, m⟩, hm, rfl⟩ := List.mem_map.mp hi
  obtain ⟨b0, _, hb0, _, hsub, hall, hsum, t0, rest, hmeq, _⟩ :=
    C19_matched_ok benefits bs' trades left matched hn ha _ hm
  cases hb.symm.trans hb0
  cases hs.symm.trans hsum
  exact hno m hsub (fun h0 => by simp [h0] at hmeq) hall rfl

/-- The search itself never invents a set: what it returns is one of the combinations it found. -/
theorem C19_found_set_is_a_match (sec : Nat) (sold : Rat) (p : Option Rat) (cands m : List Trade)
    (h : findSet sec sold p cands = .ok m) :
    m.Sublist cands ∧ m ≠ [] ∧ (∀ t ∈ m, t.sec = sec) ∧ sumShares m = sold :=
  allMatching_spec (findSet_mem h)

theorem C19_sorted (benefits : List Benefit) (trades : List Trade) (rows : List Row)
    (h : run benefits trades = .ok rows) : rows.Pairwise (fun a b => a.settle ≤ b.settle) := by
  obtain ⟨_, _, _, _, _, hrows⟩ := run_ok_spec h
  exact hrows.sorted.imp rowLe_settle

/-- what the text layer guarantees by its regular expressions, plus positivity of share counts -/
def BenefitValid (b : Benefit) : Prop :=
  0 < b.shares ∧ 0 ≤ b.price ∧ (∀ s, b.stcShares = some s → 0 < s) ∧
  (∀ p, b.stcPrice = some p → 0 ≤ p) ∧ (∀ f, b.stcFee = some f → 0 ≤ f)

def TradeValid (t : Trade) : Prop :=
  (t.act = .buy ∨ t.act = .sell) ∧ 0 < t.shares ∧ 0 ≤ t.price ∧ 0 ≤ t.comm

/-- Every emitted row is accepted by acb (`Tx::try_from`: Buy/Sell with positive shares,
    non-negative price and commission). -/
theorem C19_accepted_by_acb (benefits : List Benefit) (trades : List Trade) (rows : List Row)
    (hn : trades.Nodup) (hbv : ∀ b ∈ benefits, BenefitValid b) (htv : ∀ t ∈ trades, TradeValid t)
    (h : run benefits trades = .ok rows) : ∀ r ∈ rows, acbAccepts r = true := by
  obtain ⟨bs', left, matched, _, hinv, hrows⟩ := run_ok_spec h
  -- validity does not look at the sell-to-cover dates
  have hbv' : ∀ b' ∈ bs', BenefitValid b' := by
    intro b' hb'
    obtain ⟨b, hb, hu⟩ := List.mem_map.mp (hinv.keep ▸ List.mem_map_of_mem (f := Benefit.undated) hb')
    obtain ⟨d, s, rfl⟩ := Benefit.of_undated_eq hu.symm
    exact hbv b hb
  intro r hr
  rw [acbAccepts_iff]
  obtain ⟨b', j, hj, hr'⟩ | ⟨t, idx, ht, rfl⟩ := hrows.origin r hr
  · obtain ⟨hsh, hpr, hss, hsp, hsf⟩ := hbv' b' (List.mem_of_getElem? hj)
    rcases hr' with rfl | ⟨s, hs, rfl⟩
    · exact ⟨.inl rfl, hsh, hpr, Rat.le_refl⟩
    · have hf := stcData_some hs
      exact ⟨.inr rfl, hss _ hf.shares, hsp _ hf.price, hsf _ hf.fee⟩
  · exact htv t (hinv.sub.subset ht)

def exBenefit (tag : Nat) (date : Int) (shares sold price stcPrice fee : Rat) : Benefit :=
  { sec := 1, acqDate := date, acqSettle := date, price := price, shares := shares, stcTxDate := none,
    stcSettle := none, stcPrice := some stcPrice, stcShares := some sold, stcFee := some fee, tag := tag }

def exTrade (file : Nat) (date : Int) (shares price comm : Rat) : Trade :=
  { sec := 1, tradeDate := date, settle := date + 2, act := .sell, price := price, shares := shares,
    comm := comm, file := file, row := 1 }

def exBenefits : List Benefit := [exBenefit 0 50 100 25 105 106 4, exBenefit 1 50 50 10 110 111 1]
def exTrades : List Trade :=
  [exTrade 0 3 5 150 5, exTrade 1 16 11 150 0, exTrade 2 46 8 150 5, exTrade 3 52 10 111 1, exTrade 4 52 25 106 4,
   exTrade 5 56 10 150 5, exTrade 6 56 9 150 5]

example : expectedBuys 0 [exBenefit 0 50 100 25 105 106 4] =
    [({ sec := 1, tradeDate := 50, settle := 50, act := .buy, shares := 100, price := 105, comm := 0,
        readIdx := 0, src := .buy 0 } : Row)] := by decide +kernel

/-- the run succeeds: 2 Buys, 2 sell-to-covers (25 and 10 shares, dated day 52), 5 manual trades,
    in settlement order; the second 10-share sale, on day 56, is outside the window
    (50 + 5 = 55 < 56) and stays a manual trade -/
example : (match run exBenefits exTrades with
    | .ok rows => rows.map (fun r => (r.settle, r.shares, match r.src with | .buy _ => 0 | .stc _ => 1 | .manual _ => 2))
    | _ => []) =
    [(5, 5, 2), (18, 11, 2), (48, 8, 2), (50, 100, 0), (50, 50, 0), (54, 25, 1), (54, 10, 1), (58, 10, 2), (58, 9, 2)] := by
  decide +kernel

example : exTrades.Nodup := by decide +kernel
example : ∀ b ∈ exBenefits, BenefitValid b := by
  have h : ∀ b ∈ exBenefits, (decide (0 < b.shares) && decide (0 ≤ b.price) &&
      b.stcShares.all (fun s => decide (0 < s)) && b.stcPrice.all (fun p => decide (0 ≤ p)) &&
      b.stcFee.all (fun f => decide (0 ≤ f))) = true := by
    decide +kernel
  intro b hb
  have := h b hb
  simp only [Bool.and_eq_true, decide_eq_true_eq, Option.all_eq_true, and_assoc] at this
  exact this

/-- Outside the domain: the same confirmation given twice.  With the duplicated 5-share sale
    `t` around another sale `u`, the benefit's 10 sold shares are matched by `[t, t]`, but "remove
    by position of an equal element" removes `t` and `u`: the output keeps a third copy of `t` as
    a manual trade and `u`'s 3 shares vanish. -/
theorem C19_duplicate_trade_counterexample :
    let t := exTrade 0 51 5 100 1
    let u := exTrade 1 51 3 100 1
    (match amend [exBenefit 0 50 20 10 100 100 1] [t, u, t] with
     | .ok _ left matched => (left, matched.map (·.2))
     | _ => ([], [])) = ([t], [[t, t]]) := by
  decide +kernel

end Acb
