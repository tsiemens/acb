/-
  C17 / C05 at the level of the application pipeline (`run_acb_app_to_render_model`): the rows handed
  to `calc_total_costs` satisfy the report's precondition for every input, also when a security's
  ledger fails part-way or its split validation fails.
-/
import AcbModel.Props.C17b
import AcbModel.Lemmas.SecTxs
namespace Acb
open Acb.Costs

/-- `all_deltas` of `run_acb_app_to_render_model`, as report rows -/
def pipelineRows (isDefault : Aff → Bool) (dflt : Aff) (inits : Nat → Option Status) (rows : List PRow) : List Row :=
  (runPipeline dflt inits rows).flatMap (fun r => r.2.1.map (rowOfDelta isDefault r.1))

/-- C17 (pipeline level): the report's precondition holds for every input. -/
theorem C17_pipeline_rows_wf (isDefault : Aff → Bool) (dflt : Aff) (inits : Nat → Option Status)
    (rows : List PRow) (hv : ∀ r ∈ rows, r.tx.Valid) (hi : ∀ s, InitOk dflt (inits s)) :
    WF (pipelineRows isDefault dflt inits rows) := by
  refine WF_flatMap (·.1) _ _ ?_ (List.forall_mem_map.mpr fun s _ => ?_)
  · rw [runPipeline, List.pairwise_map]
    exact (nodup_eraseDups _).imp (fun h => h)
  · show SecRowsOk s ((secResultSorted dflt (inits s) (rowsOf s (sortRows rows))).1.map (rowOfDelta isDefault s))
    rcases secResultSorted_history (P := Tx.Valid) dflt (inits s) (R := rowsOf s (sortRows rows))
      ((sortRows_sorted rows).filter _) (fun r hr => hv r (mem_sortRows.mp (mem_rowsOf.mp hr).1))
      (fun _ _ _ _ h => h) with h | ⟨hvt, hst, h⟩
    · rw [h]; exact .nil s
    · rw [h]; exact C09_ledger_model_rows_ok isDefault dflt s (inits s) _ hvt (hi s) hst

/-- C17/C05 (pipeline level): `--total-costs` cannot panic, for every input, every hash
    iteration order (`σ`, `τ`) and every calendar. -/
theorem C17_pipeline_costs_no_panic (yearOf : Int → Int) (σ : List Nat → List Nat) (τ : List Int → List Int)
    (isDefault : Aff → Bool) (dflt : Aff) (inits : Nat → Option Status)
    (rows : List PRow) (hv : ∀ r ∈ rows, r.tx.Valid) (hi : ∀ s, InitOk dflt (inits s)) :
    ∃ c, calcTotalCosts yearOf (pipelineRows isDefault dflt inits rows) σ τ = .ok c :=
  C17_no_panic yearOf _ σ τ (C17_pipeline_rows_wf isDefault dflt inits rows hv hi)

/-- C17 (pipeline level): the figures.  For every input, every cell of every dated row of the
    report computed from the pipeline's ledgers is the `Figure` of that security and day — the
    day's highest post-transaction cost base, else the cost base after the most recent earlier
    transaction, else the opening cost base — with no hypothesis left on the rows. -/
theorem C17_pipeline_day_figures (yearOf : Int → Int) {σ : List Nat → List Nat} {τ : List Int → List Int}
    (hσ : IsOrder σ) (hτ : IsOrder τ)
    (isDefault : Aff → Bool) (dflt : Aff) (inits : Nat → Option Status)
    (rows : List PRow) (hv : ∀ r ∈ rows, r.tx.Valid) (hi : ∀ s, InitOk dflt (inits s)) {c : Result}
    (h : calcTotalCosts yearOf (pipelineRows isDefault dflt inits rows) σ τ = .ok c) :
    ∀ d ∈ c.days, ∀ s ∈ c.secs, ∃ v, c.tab.cost d s = some v ∧
      Figure (pipelineRows isDefault dflt inits rows) s d v :=
  C17_day_figures (C17_pipeline_rows_wf isDefault dflt inits rows hv hi) hσ hτ h

/-! Non-vacuity: an unsorted two-security input with a second (registered) affiliate and a global
    split; the hypotheses hold and the report rows are the expected ones. -/
private def pD : Aff := { key := 0, registered := false }
private def pR : Aff := { key := 1, registered := true }
private def pRows : List PRow := [
  { sec := 1, glob := false, tx := { trade := 8, settle := 10, idx := 0, aff := pD, act := .buy 3 7 0 1 none } },
  { sec := 0, glob := false, tx := { trade := 50, settle := 52, idx := 1, aff := pD, act := .sell 4 30 1 1 none none } },
  { sec := 0, glob := false, tx := { trade := 1, settle := 3, idx := 2, aff := pD, act := .buy 10 20 5 1 none } },
  { sec := 0, glob := false, tx := { trade := 2, settle := 4, idx := 3, aff := pR, act := .buy 7 21 0 1 none } },
  { sec := 0, glob := true, tx := { trade := 20, settle := 20, idx := 4, aff := pD, act := .split 2 1 false } } ]

example : ∀ r ∈ pRows, r.tx.Valid := forall_valid_of_validB (by decide +kernel)
example : ∀ s : Nat, InitOk pD ((fun _ => none) s) := fun _ => ⟨rfl, by intro s h; cases h⟩
example : (pipelineRows (· == pD) pD (fun _ => none) pRows).map (fun r => (r.sec, r.day, r.pre, r.post, r.dflt)) =
    [(0, 3, some 0, some 205, true), (0, 4, none, none, false), (0, 20, some 205, some 205, true),
     (0, 20, none, none, false), (0, 52, some 205, some 164, true), (1, 10, some 0, some 21, true)] := by
  decide +kernel

end Acb
