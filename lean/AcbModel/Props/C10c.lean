/-
  C10, the generated summary itself (`makeSummaryTxs`), simple mode, when the range selection finds
  everything up to the summary date summarisable: followed by the rows settling after the date, it
  reproduces every later delta of the full run.
-/
import AcbModel.Props.C10b
namespace Acb

/-- C10 (simple mode, nothing carried over — partial in exactly that sense).
    `pre ++ later` is a history of valid rows of one security in settlement order, `pre` settling on
    or before the summary date `latest`, `later` after it, and the full run is error-free.  If the
    range selection reports the last in-range delta as summarisable (no later loss sale has the
    last summarised date in its window — the carried-over case is not covered here), then the
    rows `makeSummaryTxs` generates, followed by `later` and replayed from nothing, yield the
    summary rows' own deltas followed by **exactly** the deltas the full run yields after the
    summary point — gains, superficial losses, balances, cost bases, generated adjustments — and no
    failure. -/
theorem C10_summary_then_later_partial (yearOf jan1 : Int → Int) (dflt : Aff) (hdflt : dflt.registered = false)
    (pre later : List Tx) (latest : Int)
    (hv : ∀ x ∈ pre ++ later, x.Valid)
    (hsorted : (pre ++ later).Pairwise (fun a b => a.settle ≤ b.settle))
    (hpre : ∀ x ∈ pre, x.settle ≤ latest) (hlater : ∀ x ∈ later, latest < x.settle)
    (hne : pre ≠ [])
    (hok : (deltaList dflt none (pre ++ later)).2 = none)
    (li : Nat)
    (hr : summaryRange latest (deltaList dflt none (pre ++ later)).1 =
      some { lastInRange := li, lastSummarizable := some li }) :
    ∃ dS, deltaList dflt none
        (makeSummaryTxs yearOf jan1 latest false (deltaList dflt none (pre ++ later)).1 ++ later) =
          (dS ++ (deltaList dflt none (pre ++ later)).1.drop (li + 1), none) ∧
      dS.length = (makeSummaryTxs yearOf jan1 latest false (deltaList dflt none (pre ++ later)).1).length := by
  obtain ⟨dS, dC, hd, hlen, hdc⟩ :=
    summary_replay yearOf jan1 pre later latest hv hsorted hpre hlater hne hok _ hr
  have hmk := makeSummaryTxs_eq yearOf jan1 latest hr
  have hnil : ((deltaList dflt none (pre ++ later)).1.take (li + 1)).drop (li + 1) = [] :=
    List.drop_eq_nil_of_le (by simp; omega)
  simp only [cutOf_some, hnil, List.map_nil, List.append_nil] at hmk hdc
  cases hdc
  exact ⟨dS, by simpa using hd, by rw [hmk, hlen]⟩

/-! Non-vacuity: the history of `Props/C10b.lean` (two purchases by two affiliates on days 0 and 5;
    then a loss sale on day 100 that is half superficial because the spouse buys on day 110, and a
    sale at a gain on day 200), summary date = day 50.  All hypotheses hold; the range selection
    returns "delta 1 is the last in range and summarisable". -/
private def q0 : Aff := ⟨0, false⟩
private def q1 : Aff := ⟨1, false⟩
private def preY : List Tx := [
  { trade := 0, settle := 0, idx := 0, aff := q0, act := .buy 100 10 0 1 none },
  { trade := 5, settle := 5, idx := 1, aff := q1, act := .buy 50 12 0 1 none } ]
private def laterY : List Tx := [
  { trade := 100, settle := 100, idx := 2, aff := q0, act := .sell 40 8 0 1 none none },
  { trade := 110, settle := 110, idx := 3, aff := q1, act := .buy 20 8 0 1 none },
  { trade := 200, settle := 200, idx := 4, aff := q0, act := .sell 10 15 0 1 none none } ]

example : ∃ dS, deltaList q0 none
      (makeSummaryTxs id id 50 false (deltaList q0 none (preY ++ laterY)).1 ++ laterY) =
        (dS ++ (deltaList q0 none (preY ++ laterY)).1.drop (1 + 1), none) ∧
    dS.length = (makeSummaryTxs id id 50 false (deltaList q0 none (preY ++ laterY)).1).length := by
  apply C10_summary_then_later_partial id id q0 rfl preY laterY 50
  · exact forall_valid_of_validB (by decide +kernel)
  · decide
  · decide
  · decide
  · simp [preY]
  · decide +kernel
  · decide +kernel

/-- the generated summary of that example: two purchases, dated days 0 and 5 -/
example : (makeSummaryTxs id id 50 false (deltaList q0 none (preY ++ laterY)).1).map (fun t => (t.settle, t.aff.key)) =
    [(0, 0), (5, 1)] := by decide +kernel

end Acb
