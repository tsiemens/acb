/-
  C03 — Money is conserved: a denied loss moves into cost base, once, in full.
-/
import AcbModel.Lemmas.Blocks
import AcbModel.Lemmas.ValidCheck
import AcbModel.Props.C01
namespace Acb
open Spec

/-- **C03 (conservation).**  Take any error-free run in which every affiliate is non-registered
    and the user supplied no manual superficial-loss entry (no `superficial loss` cell, no SfLA
    row).  Let `U` be any duplicate-free list of (non-registered) affiliates containing every
    affiliate of the report.  Then after every transaction with its automatic adjustments applied
    — i.e. at every position `k` of the report that is its end or is followed by a row that is
    not an adjustment — and as long as no sale so far is flagged "potentially over-applied":

      capital gains so far = net sale proceeds so far − purchase costs so far
                             + returns of capital so far + (cost base held − opening cost base). -/
theorem C03_conservation (dflt : Aff) (init : Option Status) (txs : List Tx)
    (hi : InitOk dflt init) (hc : ∀ tx ∈ txs, C3Row tx)
    (hok : (deltaList dflt init txs).2 = none)
    (U : List Aff) (hn : U.Nodup) (hUreg : ∀ a ∈ U, a.registered = false)
    (hU : ∀ d ∈ (deltaList dflt init txs).1, d.tx.aff ∈ U)
    (k : Nat)
    (hbound : (deltaList dflt init txs).1.drop k = [] ∨
              ∃ x xs, (deltaList dflt init txs).1.drop k = x :: xs ∧ ¬ IsSfla x.tx)
    (hnover : ∀ d ∈ (deltaList dflt init txs).1.take k, overFlag d = false) :
    let ds := (deltaList dflt init txs).1.take k
    let bs0 := Books.init dflt init
    let f := flows bs0 {} ds
    f.gains = f.proceeds - f.costs + f.roc + (totalAcb U (after bs0 (ds.map (·.tx))) - totalAcb U bs0) := by
  intro ds bs0 f
  have hv : ∀ tx ∈ txs, tx.Valid := fun tx h => (hc tx h).1
  have hconf := C01_refines_spec dflt init txs hv
  obtain ⟨t, ht, hrf, _, hw⟩ := Tracker.new_wf hi
  have hblocks : Blocks (deltaList dflt init txs).1 := by
    rw [deltaList_eq_loop ht] at hok ⊢
    obtain ⟨out, h1, h2⟩ := deltaLoop_blocks (bs := Books.init dflt init) txs t [] [] hc (by simp) ⟨hrf, _, hw⟩ hok
    rw [h1]
    exact h2
  have hbal : imbalances ds = 0 :=
    hblocks.balanced ds ((deltaList dflt init txs).1.drop k) (List.take_append_drop k _).symm hbound hnover
  -- the opening tracker is well formed and holds the opening books
  have hsome : AcbSome U bs0 := fun a ha => by
    have e : t.acbOf a = (bs0 a).acb := congrArg Book.acb ((bookOf_getD t a).symm.trans (hrf a))
    have := hw.reg a
    rw [hUreg a ha, e] at this
    exact Option.isSome_iff_exists.mp (by simpa using this.symm)
  have hid := psi_after hn (bs0 := bs0) {} (Conforms_take hconf k)
    (fun d hd => hU d (List.mem_of_mem_take hd)) hsome
  rw [hbal] at hid
  unfold psi at hid
  show (flows bs0 {} ds).gains = _
  grind

end Acb

namespace Acb
open Spec

/-- **C03 (each denied loss is added once, in full).**  For a sale with no manual entry whose
    buyers are non-registered and which is not flagged "potentially over-applied", the automatic
    adjustment rows total exactly the denied amount. -/
theorem C03_adjustments_sum {t : Tracker} (hb : ∀ a, 0 ≤ t.bal a) {tx : Tx} {sold : Rat} (hs : 0 < sold)
    {loss : Rat} {past future : List Tx}
    (hvp : ∀ x ∈ past, x.Valid) (hvf : ∀ x ∈ future, x.Valid)
    (hqp : ∀ x ∈ past, x.aff.registered = false) (hqf : ∀ x ∈ future, x.aff.registered = false)
    {info : SflInfo} {adj : List Tx}
    (h : deltaSflInfo t tx sold none loss past future = .ok (some (info, adj))) :
    info.over = true ∨ sumAmounts adj = - info.loss :=
  deltaSflInfo_balanced hb hs (fun x hx => ⟨hvp x hx, hqp x hx⟩) (fun x hx => ⟨hvf x hx, hqf x hx⟩) h

/-- **C03 (adjustments never go to a registered affiliate).** -/
theorem C03_never_registered {t : Tracker} {tx : Tx} {pre : Status} {past future : List Tx} {o : ArmOut}
    (h : arm t tx pre past future = .ok o) : ∀ x ∈ o.inj, x.aff.registered = false := by
  intro x hx
  obtain ⟨_, _, h1, _, rfl⟩ := arm_inj_row h hx
  exact h1

/-! Non-vacuity: `Buy 10 @10; Sell 5 @8` eight days later is a fully superficial loss of 10; the
    run is error-free, satisfies the hypotheses of `C03_conservation`, generates one adjustment
    of 10, and the identity holds at the end (gains 0 = 40 − 100 + 0 + 60). -/
private def c3Txs : List Tx := [
  { trade := 0, settle := 0, idx := 0, aff := ⟨0, false⟩, act := .buy 10 10 0 1 none },
  { trade := 8, settle := 8, idx := 1, aff := ⟨0, false⟩, act := .sell 5 8 0 1 none none } ]

example : (deltaList ⟨0, false⟩ none c3Txs).2 = none := by decide +kernel
example : (deltaList ⟨0, false⟩ none c3Txs).1.map (fun d => (d.gain, d.post.acb, overFlag d)) =
    [(none, some 100, false), (some 0, some 50, false), (none, some 60, false)] := by decide +kernel
example : ∀ tx ∈ c3Txs, C3Row tx := by
  intro tx h
  simp only [c3Txs, List.mem_cons, List.not_mem_nil, or_false] at h
  rcases h with rfl | rfl <;> exact ⟨Tx.valid_of_validB (by decide +kernel), rfl, trivial⟩

end Acb
