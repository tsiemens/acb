/-
  C07 — Results do not depend on how the input rows are laid out.

  Models: `Csv.readFiles` / `Csv.parseTable` / `Csv.readTxs` (reading loop of
  run_acb_app_to_delta_models over parse_tx_csv + Tx::try_from) and `Order.process`
  (all_txs.sort() on (settlement_date, read_index), then split_txs_by_security).
  Everything after `split_txs_by_security` is a function of the per-security row lists; the read
  index is only copied there, never compared.
-/
import AcbModel.Lemmas.Layout
import AcbModel.Lemmas.Order
import AcbModel.Generated.CsvTables
namespace Acb
open Csv Order

/-- The sort key in the source is (settlement_date, read_index). -/
theorem C07_sort_key_matches_source :
    Gen.sortKeyFirst = "settlement_date" ∧ Gen.sortKeySecond = "read_index" := by decide +kernel

/-- The rows of one table cut at any places into several files (each with the header, given in
    order) are read as the same transactions as the single file — or both readings fail. -/
theorem C07_file_partition (hdr : List Str) (chunks : List (List (List Str))) (hne : chunks ≠ []) (start : Nat) :
    (readFiles (chunks.map (fun rows => (⟨hdr, rows⟩ : Table))) start).toOption =
      (readTxs ⟨hdr, chunks.flatten⟩ start).toOption := by
  refine toOption_eq_of_ok_iff (fun ts => ?_)
  by_cases hd : some Col.settleDate ∈ mapHeader hdr ∧ some Col.legacyDate ∈ mapHeader hdr
  · -- a header with both date columns: the first file is refused, and so is the single file
    obtain ⟨c, rest, rfl⟩ := List.exists_cons_of_ne_nil hne
    simp [readFiles_cons_ok_iff, readTxs_ok_iff, hd]
  · rw [readFiles_chunks_ok_iff hdr hd, readTxs_ok_iff]
    simp [hd]

/-- Whatever the files, the `k`-th transaction read carries read index `start + k`: ties in the sort
    are broken by position in the concatenated input. -/
theorem C07_read_index_is_position (files : List Table) (start : Nat) (txs : List Tx)
    (h : readFiles files start = .ok txs) : IndexedFrom start txs := by
  induction files generalizing start txs with
  | nil => cases h; trivial
  | cons f fs ih =>
    obtain ⟨a, b, ha, hb, rfl⟩ := readFiles_cons_ok_iff.1 h
    exact (indexedFrom_of_reads (readTxs_ok_iff.1 ha).2).append (ih _ _ hb)

/-- If no recognised column name occurs twice, re-arranging the columns (header and every row: the
    same multiset of (header cell, row cell) pairs) does not change what is read. -/
theorem C07_column_perm (hdr hdr' : List Str) (rows rows' : List (List Str)) (hh : hdr'.Perm hdr)
    (hd : DistinctRecognised hdr) (h : SameColumns hdr' hdr rows' rows) (start : Nat) :
    readTxs ⟨hdr', rows'⟩ start = readTxs ⟨hdr, rows⟩ start :=
  readTxs_congr (fun _ => (hh.map _).mem_iff) (h.rows_agree hd) start

/-- reversing the columns is such a re-arrangement -/
theorem C07_column_reverse (hdr : List Str) (rows : List (List Str)) (hlen : ∀ r ∈ rows, r.length = hdr.length) :
    SameColumns hdr.reverse hdr (rows.map List.reverse) rows := by
  induction rows with
  | nil => exact .nil
  | cons r rs ih =>
    have hr := hlen r (by simp)
    refine .cons (by simp [hr]) hr ?_ (ih (fun x hx => hlen x (by simp [hx])))
    rw [List.zip_eq_zipWith, List.zip_eq_zipWith, ← List.reverse_zipWith hr.symm]
    exact List.reverse_perm _

/-- Each header cell may be padded with white space and written in another letter case. -/
theorem C07_header_case_pad (hdr hdr' : List Str) (rows : List (List Str))
    (h : Forall2 (fun h' h0 => ∃ w1 core w2, h' = w1 ++ core ++ w2 ∧ (∀ c ∈ w1, isWs c = true) ∧
            (∀ c ∈ w2, isWs c = true) ∧ lower core = lower h0) hdr' hdr) (start : Nat) :
    readTxs ⟨hdr', rows⟩ start = readTxs ⟨hdr, rows⟩ start := by
  have hm : mapHeader hdr' = mapHeader hdr :=
    h.map_eq (fun _ _ ⟨w1, core, w2, e, h1, h2, hc⟩ =>
      congrArg colOfName (e ▸ sanitize_case_pad w1 core w2 _ h1 h2 hc))
  simp only [readTxs_eq, hm]

/-- A column whose header is not a recognised name, inserted at any position with any cell texts,
    changes nothing. -/
theorem C07_unknown_columns (hdr : List Str) (k : Nat) (h : Str) (hk : k ≤ hdr.length)
    (hun : colOfName (sanitize h) = none) (rows : List (List Str)) (vs : List Str)
    (hlen : ∀ r ∈ rows, r.length = hdr.length) (start : Nat) :
    readTxs ⟨insertAt k h hdr, (rows.zip vs).map (fun p => insertAt k p.2 p.1)⟩ start =
      readTxs ⟨hdr, (rows.zip vs).map (·.1)⟩ start := by
  refine readTxs_congr (fun c => ?_) ?_ start
  · rw [mapHeader_insertAt, hun, (insertAt_perm k none _).mem_iff]
    simp
  · refine forall2_map_map (fun p hp => ?_)
    have hr : p.1.length = hdr.length := hlen p.1 (List.of_mem_zip hp).1
    exact ⟨by simp [(insertAt_perm k _ _).length_eq, hr], fun c => lookupCell_insert c k h p.2 hdr p.1 hun hk hr⟩

/-- The rows of a security reach the ledger in settlement-date order, ties broken by position in the
    concatenated input. -/
theorem C07_order_declarative {α : Type} (rows : List (InRow α)) (s : String) :
    process rows s = canonical rows s :=
  process_eq_canonical rows s

/-- Any re-ordering of the input rows that keeps the relative order of the rows of one security
    settling on the same date leaves the row list of every security, as the ledger receives it,
    unchanged. -/
theorem C07_row_perm {α : Type} (rows' rows : List (InRow α)) (h : Admissible rows' rows) (s : String) :
    process rows' s = process rows s := by
  rw [process_eq_canonical, process_eq_canonical]
  unfold canonical
  rw [h.dates_eq]
  congr 1
  funext d
  exact h s d

/-- Swapping two neighbouring rows that differ in security or settlement date is admissible;
    admissible re-orderings compose (`Admissible.trans`). -/
theorem C07_swap_admissible {α : Type} (l1 l2 : List (InRow α)) (a b : InRow α)
    (h : a.sec ≠ b.sec ∨ a.settle ≠ b.settle) : Admissible (l1 ++ b :: a :: l2) (l1 ++ a :: b :: l2) := by
  intro s d
  -- `a` and `b` are not in the same class, so at most one of them passes the filter
  have hne : ¬ ((a.sec == s && a.settle == d) = true ∧ (b.sec == s && b.settle == d) = true) := by
    simp only [Bool.and_eq_true, beq_iff_eq]
    rintro ⟨⟨h1, h2⟩, h3, h4⟩
    exact h.elim (fun h => h (h1.trans h3.symm)) (fun h => h (h2.trans h4.symm))
  unfold cls
  simp only [List.filter_append, List.filter_cons]
  cases ha : (a.sec == s && a.settle == d) <;> cases hb : (b.sec == s && b.settle == d)
  · rfl
  · rfl
  · rfl
  · exact absurd ⟨ha, hb⟩ hne

/-- The sorting algorithm is immaterial: any list with the same members that is sorted on
    (settlement date, read index) is the list the model's insertion sort produces. -/
theorem C07_sort_unique {α : Type} (l sorted : List (Keyed α)) (hd : l.Pairwise (fun a b => a.idx ≠ b.idx))
    (hs : sorted.Pairwise keyLt) (hm : ∀ x, x ∈ sorted ↔ x ∈ l) : sorted = sortKeyed l :=
  keyed_sorted_unique sorted (sortKeyed l) hs (sorted_sortKeyed l hd)
    (fun x => (hm x).trans (mem_sortKeyed x l).symm)

def c07Rows : List (InRow Nat) :=
  [⟨"FOO", 10, 0⟩, ⟨"BAR", 10, 1⟩, ⟨"FOO", 10, 2⟩, ⟨"FOO", 9, 3⟩, ⟨"BAR", 12, 4⟩, ⟨"FOO", 10, 5⟩]

/-- two securities, a same-day tie: FOO is processed as row 3 (day 9), then rows 0, 2, 5 (day 10, input order) -/
example : (process c07Rows "FOO").map (·.val) = [3, 0, 2, 5] := by decide +kernel
example : (process c07Rows "BAR").map (·.val) = [1, 4] := by decide +kernel
/-- an admissible re-ordering (rows of different classes moved past each other) -/
example : (process [⟨"FOO", 9, 3⟩, ⟨"FOO", 10, 0⟩, ⟨"BAR", 12, 4⟩, ⟨"FOO", 10, 2⟩, ⟨"BAR", 10, 1⟩, ⟨"FOO", 10, 5⟩] "FOO").map
    (·.val) = [3, 0, 2, 5] := by decide +kernel
/-- a re-ordering that is NOT admissible (rows 0 and 2 swapped) changes the result: the hypothesis is needed -/
example : (process [⟨"FOO", 10, 2⟩, ⟨"BAR", 10, 1⟩, ⟨"FOO", 10, 0⟩, ⟨"FOO", 9, 3⟩, ⟨"BAR", 12, 4⟩, ⟨"FOO", 10, 5⟩] "FOO").map
    (·.val) = [3, 2, 0, 5] := by decide +kernel

example : sanitize (strOf "  Trade DATE\t") = Col.tradeDate.name := by decide +kernel
example : colOfName (sanitize (strOf "notes")) = none := by decide +kernel
example : DistinctRecognised [strOf "Security", strOf "notes", strOf "trade date", strOf "junk"] := by
  unfold DistinctRecognised; decide +kernel

end Acb
