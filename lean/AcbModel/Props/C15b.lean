/-
  C15 — Stock splits are value-neutral: the full statement for the ledger model
  (`txs_to_delta_list`), including the superficial-loss scans on both sides of the split.
-/
import AcbModel.Lemmas.ScaleLoop
import AcbModel.Lemmas.ValidCheck
namespace Acb

/-- C15 (ledger model, full statement).  For every opening position, every history `q ++ r`
    of valid rows, every day `day` with `q` settling on or before it and `r` on or after it, every
    ratio `post`-for-`pre` and every duplicate-free list `As` of affiliates containing those of the
    history: inserting one split row per affiliate of `As` after `q` and restating `r` (share
    quantities × post/pre, per-share amounts ÷ post/pre) is value-neutral — wherever the split
    falls relative to the 30-day windows of the loss sales of `q` and `r`, and for affiliates
    holding nothing at the time.  (Later splits in `r` must allow fractional results, since a
    whole-number-only reverse split is by design not scale-invariant.) -/
theorem C15_neutral (dflt : Aff) (init : Option Status) (hi : InitOk dflt init) (q r : List Tx)
    (day : Int) (idx : Nat) (post pre : Rat) (As : List Aff)
    (hpost : 0 < post) (hpre : 0 < pre) (hn : As.Nodup) (hd : init ≠ none → dflt ∈ As)
    (hq : ∀ x ∈ q, x.Valid ∧ x.aff ∈ As ∧ x.settle ≤ day)
    (hr : ∀ x ∈ r, x.Valid ∧ x.aff ∈ As ∧ day ≤ x.settle ∧ NoIntOnly x) :
    SplitNeutral (splitFactor post pre) As.length
      (deltaList dflt init (q ++ r))
      (deltaList dflt init (q ++ splitRows day idx post pre As ++ r.map (restateTx (splitFactor post pre)))) := by
  obtain ⟨t, ht, hw⟩ := Tracker.new_wfOn hi hn hd
  rw [deltaList_eq_loop ht, deltaList_eq_loop ht]
  exact deltaLoop_splitNeutral hn hw (by simp) idx (div_pos' hpost hpre) hq hr

/-- A pair of corresponding later rows: same capital gain, same superficial-loss amount, same
    cost base before and after; share balances (own and all-affiliate) multiplied by `f`. -/
theorem C15_row_figures {f : Rat} {d d' : Delta} (h : DeltaScaled f d d') :
    d'.gain = d.gain ∧ d'.sfl.map (·.loss) = d.sfl.map (·.loss) ∧ d'.post.acb = d.post.acb ∧
    d'.pre.acb = d.pre.acb ∧ d'.post.shares = d.post.shares * f ∧ d'.post.all = d.post.all * f :=
  ⟨h.gain, h.sfl.loss_eq, by rw [h.post]; rfl, by rw [h.pre]; rfl, by rw [h.post]; rfl, by rw [h.post]; rfl⟩

/-- C15 (reported gains and superficial losses).  The capital gains and the superficial-loss
    amounts reported by the two runs are the same lists (the inserted split rows report none). -/
theorem C15_gains_and_sfl {f : Rat} {n : Nat} {A B : List Delta × Option Failure} (h : SplitNeutral f n A B) :
    B.1.filterMap (·.gain) = A.1.filterMap (·.gain) ∧
    B.1.filterMap (fun d => d.sfl.map (·.loss)) = A.1.filterMap (fun d => d.sfl.map (·.loss)) :=
  ⟨h.filterMap_eq _ (fun hd => (C15_row_figures hd).1) fun hd => hd.gain,
    h.filterMap_eq _ (fun hd => (C15_row_figures hd).2.1) fun hd => by simp only [hd.sfl, Option.map_none]⟩

/-! Non-vacuity, with a superficial loss whose window contains the split: two affiliates; `b0`
    buys 100 @10, sells 50 @8 on day 40 (a loss), and `b1` (the spouse) buys 30 @8 on day 50, inside
    the window; the 3-for-2 split is inserted on day 45 — between the sale and the repurchase.
    All hypotheses of `C15_neutral` hold for this history. -/
private def b0 : Aff := ⟨0, false⟩
private def b1 : Aff := ⟨1, false⟩
private def qx : List Tx := [
  { trade := 0, settle := 0, idx := 0, aff := b0, act := .buy 100 10 0 1 none },
  { trade := 40, settle := 40, idx := 1, aff := b0, act := .sell 50 8 0 1 none none } ]
private def rx : List Tx := [
  { trade := 50, settle := 50, idx := 2, aff := b1, act := .buy 30 8 0 1 none },
  { trade := 90, settle := 90, idx := 3, aff := b1, act := .sell 30 9 0 1 none none } ]

example : SplitNeutral (splitFactor 3 2) 2 (deltaList b0 none (qx ++ rx))
    (deltaList b0 none (qx ++ splitRows 45 9 3 2 [b0, b1] ++ rx.map (restateTx (splitFactor 3 2)))) := by
  apply C15_neutral b0 none ⟨rfl, by simp⟩ qx rx 45 9 3 2 [b0, b1] (by decide) (by decide)
    (by decide) (by simp)
  · intro x hx
    obtain ⟨hv, h⟩ := (by decide +kernel : ∀ x ∈ qx, x.act.validB = true ∧ x.aff ∈ [b0, b1] ∧ x.settle ≤ 45) x hx
    exact ⟨Tx.valid_of_validB hv, h⟩
  · intro x hx
    obtain ⟨hv, ha, hs, hb⟩ :=
      (by decide +kernel : ∀ x ∈ rx, x.act.validB = true ∧ x.aff ∈ [b0, b1] ∧ 45 ≤ x.settle ∧ x.act.isSplit = false) x hx
    refine ⟨Tx.valid_of_validB hv, ha, hs, fun po pr io h => ?_⟩
    rw [h] at hb
    cases hb

/-! In that history the sale is indeed (partly) superficial in both runs, with the same denied
    amount (-60 of the -100 loss: 30 of the 50 shares were bought back). -/
example : (deltaList b0 none (qx ++ rx)).1.filterMap (fun d => d.sfl.map (·.loss)) = [-60] := by decide +kernel
example : (deltaList b0 none (qx ++ splitRows 45 9 3 2 [b0, b1] ++ rx.map (restateTx (splitFactor 3 2)))).1.filterMap
    (fun d => d.sfl.map (·.loss)) = [-60] := by decide +kernel

end Acb
