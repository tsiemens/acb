/-
  C14 — An interrupted cache write cannot corrupt exchange rates.

  `writeProc` (AcbModel/Fx/CrashFs.lean) is the write procedure of the
  REPAIRED `CsvRatesCache::write_rates` (temp file, flush, sync, rename — repo commit "fix: write the
  exchange-rate cache to a temporary file and rename it into place", finding F-14);
  `crashStates` lists every state in which the process can die (after any operation, inside the
  append at any byte offset), `killView` / `lossViews` what a later process then finds in the
  directory after a kill / after a power loss; `parseFile` is the lenient reader.
-/
import AcbModel.Lemmas.FxCacheFile
import AcbModel.Lemmas.FxCrash
import AcbModel.Lemmas.FxExamples
import AcbModel.Lemmas.FxDateText
namespace Acb
open Fx

/-- The write procedure found in the source is the one modelled by `writeProc`: the translator only
    produces these constants when `write_rates` creates `rates-Y.csv.tmp`, flushes, calls `sync_all`
    and then renames the temp file over `rates-Y.csv`, in this order. -/
theorem C14_write_procedure_as_modelled :
    Gen.fxWriteProcSteps = "open_rates_csv_tmp_file_write" ∧ Gen.fxCacheTmpSuffix = ".tmp" := ⟨rfl, rfl⟩

theorem C14_cachefile_roundtrip (dt : DateText) (dom : Int → Prop) (hdt : dt.OK dom) (rows : List TextRow)
    (hc : ∀ r ∈ rows, r.Clean) (hd : ∀ r ∈ rows, dom r.date) :
    parseFile dt (renderRows dt rows) = rows.filterMap TextRow.value? := by
  unfold parseFile
  rw [records_of_render dt hdt rows hc hd]
  exact readRecords_rendered dt hdt rows hd none (fun _ h => nomatch h)

/-- For every day of the years 0000-9999 the `YYYY-MM-DD` text of the real file reads back as that
    day and contains neither `,` nor a newline. -/
theorem C14_date_text_ok : civilDateText.OK CivilDom := civilDateText_ok

/-- … so the real file format reads back what was written (rate texts without separators). -/
theorem C14_real_cachefile_roundtrip (rows : List TextRow) (hc : ∀ r ∈ rows, r.Clean)
    (hd : ∀ r ∈ rows, CivilDom r.date) :
    parseFile civilDateText (renderRows civilDateText rows) = rows.filterMap TextRow.value? :=
  C14_cachefile_roundtrip civilDateText CivilDom civilDateText_ok rows hc hd

/-- Whenever the process is killed while writing a year — after any step, or inside
    the write at any byte offset, and whatever temp file an earlier crash left behind — the cache
    file is the complete old file (or still absent) or the complete new file. -/
theorem C14_cache_file_old_or_new_after_kill (live tmp : Option File) (content : List Char)
    (s : YearFiles) (hs : s ∈ crashStates { live := live, tmp := tmp } (writeProc content)) :
    (killView s).live = live.map (·.data) ∨ (killView s).live = some content := by
  rcases crashStates_writeProc hs with ⟨h, _⟩ | rfl
  · exact .inl (congrArg (·.map (·.data)) h)
  · exact .inr rfl

/-- The same when the machine loses power: unsynced bytes may be cut off
    anywhere and the rename may not have reached the disk, but the cache file is still a complete
    old or new file (the old file being on stable storage, as a completed earlier run leaves it). -/
theorem C14_cache_file_old_or_new_after_power_loss (live tmp : Option File) (content : List Char)
    (hl : Settled live)
    (s : YearFiles) (hs : s ∈ crashStates { live := live, tmp := tmp } (writeProc content))
    (v : View) (hv : v ∈ lossViews s) :
    v.live = live.map (·.data) ∨ v.live = some content := by
  rcases crashStates_writeProc hs with ⟨h, hp⟩ | rfl
  · rcases lossViews_live (h ▸ hl) (fun old ho => by cases hp.symm.trans ho) hv with hv | ⟨old, ho, _⟩
    · exact .inl (h ▸ hv)
    · cases hp.symm.trans ho
  · rcases lossViews_live (fun x hx => by cases hx; rfl) (fun old ho => by cases ho; exact hl) hv with
      hv | ⟨old, ho, hv⟩
    · exact .inr hv
    · cases ho
      exact .inl hv

/-- Everything a later process can find after a crash while year `y` was being written. -/
def CrashView (files : Int → Option (List Char)) (y : Int) (tmp : Option File) (content : List Char)
    (v : View) : Prop :=
  ∃ s ∈ crashStates { live := (files y).map (fun d => ⟨d, d.length⟩), tmp := tmp } (writeProc content),
    v = killView s ∨ v ∈ lossViews s

/-- Let the cache directory hold trustworthy files (`CacheOK` for the later
    run `e`), and let a run be interrupted at ANY point (kill or power loss) while it writes the rows
    `rows` of year `y` — rows that are themselves truthful for `e`, as a downloaded and filled year
    is.  Then in the later run every look-up, whatever was looked up before, returns exactly what a
    loader without any cache returns; in particular a rate it returns is the rate published for
    that rate's day.  (The temp file is never read: it does not occur in the later run's cache.) -/
theorem C14_crash_safe (dt : DateText) (dom : Int → Prop) (hdt : dt.OK dom) (e : Env) (hc : e.cal.OK)
    (hwf : RemoteWF e)
    (files : Int → Option (List Char)) (hfiles : CacheOK e (storeOfFiles dt files))
    (y : Int) (rows : List TextRow) (hclean : ∀ r ∈ rows, r.Clean) (hdom : ∀ r ∈ rows, dom r.date)
    (htrue : Truthful e y (rows.filterMap TextRow.value?)) (hav : (e.remote y).isSome = true)
    (tmp : Option File) (v : View) (hv : CrashView files y tmp (renderRows dt rows) v)
    (ds : List Int) :
    let after := St.init (storeOfFiles dt (upd files y v.live))
    (runLookups e after ds).1.map forget = ds.map (uncached e) ∧
    ∀ d r, (getEffective e after d).1 = .ok r → pubOf e.cal e.remote r.date = some r.rate := by
  obtain ⟨s, hs, hv⟩ := hv
  -- the cache file is old or new
  have hlive : v.live = files y ∨ v.live = some (renderRows dt rows) := by
    have hd : ((files y).map fun d => (⟨d, d.length⟩ : File)).map (·.data) = files y := by
      cases files y <;> rfl
    rw [← hd]
    rcases hv with rfl | hv
    · exact C14_cache_file_old_or_new_after_kill _ tmp _ s hs
    · refine C14_cache_file_old_or_new_after_power_loss _ tmp _ (fun x hx => ?_) s hs v hv
      revert hx
      cases files y <;> rintro ⟨⟩
      rfl
  -- hence the cache the later run sees is trustworthy
  have hok : CacheOK e (storeOfFiles dt (upd files y v.live)) := by
    rcases hlive with h | h <;> rw [h]
    · rwa [upd_self]
    · rw [storeOfFiles_upd, Option.map_some, C14_cachefile_roundtrip dt dom hdt rows hclean hdom]
      exact cacheOK_upd hfiles htrue hav
  intro after
  have hinv : RunInv e after := inv_init e _ (Or.inr hok)
  refine ⟨?_, fun d r hr => (getEffective_relevant e hc hwf after hinv hr).published⟩
  rw [(runLookups_spec e hc hwf after hinv ds).2]
  exact List.map_congr_left fun d _ => (uncached_eq_spec e hc hwf d).symm

theorem C14_crash_safe_real_format (e : Env) (hc : e.cal.OK) (hwf : RemoteWF e)
    (files : Int → Option (List Char)) (hfiles : CacheOK e (storeOfFiles civilDateText files))
    (y : Int) (rows : List TextRow) (hclean : ∀ r ∈ rows, r.Clean) (hdom : ∀ r ∈ rows, CivilDom r.date)
    (htrue : Truthful e y (rows.filterMap TextRow.value?)) (hav : (e.remote y).isSome = true)
    (tmp : Option File) (v : View) (hv : CrashView files y tmp (renderRows civilDateText rows) v)
    (ds : List Int) :
    let after := St.init (storeOfFiles civilDateText (upd files y v.live))
    (runLookups e after ds).1.map forget = ds.map (uncached e) ∧
    ∀ d r, (getEffective e after d).1 = .ok r → pubOf e.cal e.remote r.date = some r.rate :=
  C14_crash_safe civilDateText CivilDom civilDateText_ok e hc hwf files hfiles y rows hclean hdom htrue hav
    tmp v hv ds

/-- Non-vacuity of `C14_crash_safe_real_format`: an empty cache directory, the run of Jan 21, 2020
    writing the 20 rows of its filled year (a 270-byte file `2020-01-01,0\n2020-01-02,1.3\n…`),
    killed after 100 bytes — a crash state of the write procedure.  All hypotheses hold; the later
    run then answers Jan 9 with the published rate of Jan 8 (after downloading). -/
example :
    let v : View := { live := none, tmp := some ((renderRows civilDateText exRows).take 100) }
    exEnvB.cal.OK ∧ RemoteWF exEnvB ∧
    CacheOK exEnvB (storeOfFiles civilDateText fun _ => none) ∧
    (∀ r ∈ exRows, r.Clean) ∧ (∀ r ∈ exRows, CivilDom r.date) ∧
    Truthful exEnvB 2020 (exRows.filterMap TextRow.value?) ∧
    CrashView (fun _ => none) 2020 none (renderRows civilDateText exRows) v := by
  -- the 20 rows are evaluated once
  have h : (∀ r ∈ exRows, r.Clean) ∧ (∀ r ∈ exRows, CivilDom r.date) ∧
      exRows.filterMap TextRow.value? = fillUnknown civil exEnvB.today
        [⟨2458851, 13/10⟩, ⟨2458852, 131/100⟩, ⟨2458855, 7/5⟩, ⟨2458857, 141/100⟩] 2020 := by
    unfold CivilDom
    decide +kernel
  refine ⟨civil_ok, exEnvB_wf, ?_, h.1, h.2.1, ?_, ?_⟩
  · intro y rows h
    simp [storeOfFiles] at h
  · rw [h.2.2]
    exact fillUnknown_truthful exEnvB civil_ok exEnvB_wf 2020 _ rfl
  · exact ⟨_, mem_crashStates_next (mem_crashStates_cut _ _ _ _ 100), .inl rfl⟩

example : String.ofList ((renderRows civilDateText exRows).take 29) = "2020-01-01,0\n2020-01-02,1.3\n2" := by
  decide +kernel

example : (getEffective exEnvB (St.init (storeOfFiles civilDateText (upd (fun _ => none) 2020 none))) 2458858).1 =
    .ok ⟨2458857, 141/100⟩ := by decide +kernel

/-- F-14, the defect that was repaired: the write procedure as it was (truncate
    `rates-Y.csv`, stream the rows into it) has a crash state whose file parses to a WRONG rate:
    killed after 29 bytes of `2017-01-04,1.2\n2017-01-05,1.3456\n`, the file ends in
    `2017-01-05,1.3`, which the lenient reader accepts as the rate 1.3 for January 5. -/
theorem C14_in_place_write_was_unsafe :
    let content := "2017-01-04,1.2\n2017-01-05,1.3456\n".toList
    ∃ s ∈ crashStates { live := none, tmp := none } (writeProcInPlace content),
      lookupLast (((killView s).live.map (parseFile civilDateText)).getD []) 2457759 = some (13 / 10) ∧
      lookupLast (parseFile civilDateText content) 2457759 = some (3364 / 2500) := by
  refine ⟨_, mem_crashStates_next (mem_crashStates_cut _ _ _ _ 29), ?_⟩
  decide +kernel

/-- Why the sync is there: temp file and rename WITHOUT the sync is safe against a kill but not
    against a power loss: the rename can reach the disk before the data, leaving a cut-off cache file. -/
theorem C14_rename_without_sync_is_unsafe_on_power_loss :
    let content := "2017-01-04,1.2\n2017-01-05,1.3456\n".toList
    ∃ s ∈ crashStates { live := none, tmp := none } (writeProcNoSync content),
      ∃ v ∈ lossViews s, v.live = some (content.take 29) := by
  refine ⟨_, foldl_mem_crashStates _ _, ?_⟩
  refine ⟨{ live := some ("2017-01-04,1.2\n2017-01-05,1.3456\n".toList.take 29), tmp := none }, ?_, rfl⟩
  -- nothing of the file is durable: the views start with its cuts after 0, 1, 2, … bytes
  exact List.mem_of_getElem? (i := 29) (by decide +kernel)

end Acb
