/-
  C20 — Statement FMV extraction returns every holding once; no page is skipped.  Models:
  `AcbModel/Broker/Pages.lean` (page hints, `load_pages`, the optimized iterator) and
  `AcbModel/Broker/Fmv.lean` (the allocation-table line machine and `parse_statement_text`).
-/
import AcbModel.Lemmas.Pages
import AcbModel.Lemmas.Fmv
import AcbModel.Generated.BrokerPdf
namespace Acb
open Pages Fmv

/-- For every page count `n` and every list of hint groups (any numbers, any order, duplicates,
    empty groups), the groups returned by `safe_page_chunks_with_remainder_pn` contain a page number
    iff it is a page of the document. -/
theorem C20_chunks_cover (n : Nat) (hints : List (List Nat)) (p : Nat) :
    p ∈ (safeChunks n hints).flatten ↔ 1 ≤ p ∧ p ≤ n := by
  rw [safeChunks_flatten, List.mem_append, mem_keptChunks_flatten, mem_remainder]
  by_cases hp : p ∈ hints.flatten <;> simp [hp]

example : safeChunks 4 [[1, 3, 5], [4, 2]] = [[1, 3], [4, 2]] := by decide
example : safeChunks 9 [[1, 7], [6, 8]] = [[1, 7], [6, 8], [2, 3, 4, 5, 9]] := by decide

/-- If no page is named twice in the hints, every page of the document is scheduled exactly once. -/
theorem C20_chunks_each_once (n : Nat) (hints : List (List Nat)) (h : hints.flatten.Nodup) :
    (safeChunks n hints).flatten.Perm (List.range' 1 n) := by
  apply (List.perm_ext_iff_of_nodup (safeChunks_flatten_nodup n hints h) List.nodup_range').mpr
  intro p
  rw [C20_chunks_cover, List.mem_range'_1]
  omega

example : ([[1, 7], [6, 8]] : List (List Nat)).flatten.Nodup := by decide

/-- No group handed to the iterator is empty (an empty group would make
    `unyielded_pages.pop_front().unwrap()` panic). -/
theorem C20_chunks_nonempty (n : Nat) (hints : List (List Nat)) : ∀ g ∈ safeChunks n hints, g ≠ [] := by
  intro g hg
  rw [safeChunks_eq] at hg
  rcases List.mem_append.mp hg with hg | hg
  · exact keptChunks_ne_nil g hg
  · split at hg
    · cases hg
    · rwa [List.mem_singleton.mp hg]

example : safeChunks 0 [[1, 7], [6, 8]] = [] := by decide

/-- The source still contains the grow-only guard in `load_pages` (repaired defect F-20); the
    iterator theorems below are about `truncating := false`, which is this form. -/
theorem C20_code_is_grow_only : Gen.loadPagesGrowGuard = "self.page_texts.len() < page_num_as_index + 1" :=
  rfl

/-- For every document, every state of the page-text vector and every list of non-empty groups of
    positive page numbers — in any order, with repetitions — `OptimizedPageIter` yields the pages of
    the groups in order, each with the text of that very page, and does not panic. -/
theorem C20_iter_visits_all {T : Type} (doc : Nat → T) (v : List (Option T)) (groups : List (List Nat))
    (h : ∀ g ∈ groups, g ≠ [] ∧ ∀ p ∈ g, 0 < p) :
    iterGroups false doc v groups = (groups.flatten.map (fun p => (p, doc p)), none) :=
  iterGroups_ok false doc v groups h nofun

example : (∀ g ∈ ([[4, 2], [3, 3, 1]] : List (List Nat)), g ≠ [] ∧ ∀ p ∈ g, 0 < p) := by decide

/-- The code as originally written (`Vec::resize` also shrinking) satisfies the same statement only
    for groups in non-decreasing order … -/
theorem C20_iter_visits_all_truncating_partial {T : Type} (doc : Nat → T) (v : List (Option T))
    (groups : List (List Nat)) (h : ∀ g ∈ groups, g ≠ [] ∧ ∀ p ∈ g, 0 < p)
    (hs : ∀ g ∈ groups, g.Pairwise (· ≤ ·)) :
    iterGroups true doc v groups = (groups.flatten.map (fun p => (p, doc p)), none) :=
  iterGroups_ok true doc v groups h (fun _ => hs)

example : ∀ g ∈ Gen.statementPageHints, g.Pairwise (· ≤ ·) := by decide

/-- … and panics before yielding page 4 for the groups `[[1,3],[4,2]]` (F-20, repaired). -/
theorem C20_iter_truncating_counterexample :
    iterGroups true (fun p => p) [] [[1, 3], [4, 2]] = ([(1, 1), (3, 3)], some (.indexOob 4)) := by
  decide

/-- For every page count and every hint list whatsoever, the pipeline of `parse_statement` (hints →
    safe chunks → iterator over a fresh vector) does not panic and yields exactly the scheduled
    pages, each with its own text … -/
theorem C20_visit_all_pages {T : Type} (doc : Nat → T) (n : Nat) (hints : List (List Nat)) :
    visit false doc n hints = ((safeChunks n hints).flatten.map (fun p => (p, doc p)), none) := by
  refine C20_iter_visits_all doc [] _ fun g hg => ⟨C20_chunks_nonempty n hints g hg, fun p hp => ?_⟩
  exact ((C20_chunks_cover n hints p).mp (List.mem_flatten.mpr ⟨g, hg, hp⟩)).1

/-- … so a page number is visited iff it is a page of the document. -/
theorem C20_visit_no_page_skipped {T : Type} (doc : Nat → T) (n : Nat) (hints : List (List Nat)) (p : Nat) :
    p ∈ (visit false doc n hints).1.map (·.1) ↔ 1 ≤ p ∧ p ≤ n := by
  rw [C20_visit_all_pages, map_fst_pages, C20_chunks_cover]

/-- The hints in the code (`[[1,7],[6,8]]`, regenerated from the source) for every page count:
    no panic, and every page of the document is visited exactly once. -/
theorem C20_hints_in_code_ok {T : Type} (doc : Nat → T) (n : Nat) :
    (visit false doc n Gen.statementPageHints).2 = none ∧
    ((visit false doc n Gen.statementPageHints).1.map (·.1)).Perm (List.range' 1 n) := by
  rw [C20_visit_all_pages, map_fst_pages]
  exact ⟨rfl, C20_chunks_each_once n _ (by decide)⟩

example : (visit false (fun p => p) 9 Gen.statementPageHints).1.map (·.1) = [1, 7, 6, 8, 2, 3, 4, 5, 9] := by
  decide

/-- For every allocation table `t` in the documented layout (`Table.WF`: any number of rows
    including none; descriptions over any number of lines, with any tokens — digits included — that
    do not begin with the bullet; figures at the end of the last description line or on their own
    line; arbitrary other text before the header, between header and first row, and after the total)
    and every page text that equals the layout up to blank lines, `parse_page` returns exactly the
    table's rows, in order, each with its description, allocation and market value, and the table
    total.

    `_partial`: `SecRow.WF.no_early_total` is a restriction beyond the layout — see the
    counterexample below. -/
theorem C20_each_security_once_partial (t : Table) (h : t.WF) (lines : List Line)
    (hl : lines.filter nonblank = t.layout.filter nonblank) :
    parsePage lines = .ok (t.rows.map SecRow.toFmv, t.totalVal) := by
  rw [← parsePage_filter lines, hl, parsePage_filter, parsePage_layout t h]

/-- Rows whose continuation lines (and own-line figures) never look like the total row satisfy the
    restriction outright: this is every table without a 100 % holding. -/
theorem C20_no_lookalike_suffices (r : SecRow) (h : ∀ l ∈ r.tail, totalRow l = none) :
    ∀ pre l post, r.tail = pre ++ l :: post → totalRow l ≠ none → secData (r.head ++ pre.flatten) = none := by
  intro pre l post heq hl
  exact absurd (h l (heq ▸ List.mem_append_right pre List.mem_cons_self)) hl

/-- So does a single 100 % holding whose figures stand on their own line — the case the code
    special-cases — as long as the description itself does not end in two number-like tokens. -/
theorem C20_single_holding_suffices (r : SecRow) (ho : r.ownLine = true)
    (hm : ∀ l ∈ r.more, totalRow l = none) (hd : secData r.descToks = none) :
    ∀ pre l post, r.tail = pre ++ l :: post → totalRow l ≠ none → secData (r.head ++ pre.flatten) = none := by
  intro pre l post heq hl
  simp only [SecRow.tail, ho, if_true] at heq
  simp only [SecRow.head, ho, if_true]
  -- `l` is not a continuation line, so it is the figures line and `pre` is all of `r.more`
  have hpre : pre = r.more := by
    rcases List.append_eq_append_iff.mp heq with ⟨a', rfl, ha⟩ | ⟨c', hc, hc'⟩
    · cases a' with
      | nil => simp
      | cons x a' => simp at ha
    · cases c' with
      | nil => simpa using hc.symm
      | cons x c' =>
        cases (List.cons.inj hc').1
        exact absurd (hm l (by simp [hc])) hl
  rw [hpre]
  exact hd

/-! Non-vacuity: the three tables of the repository's own unit test (several rows, descriptions
    over three lines with digits, figures inline and on their own line; no rows; a single 100 %
    holding whose figures line looks like the total row) are well-formed, so the theorem applies. -/

def exRowA : SecRow :=
  { first := ["BLABLA".toList, "ETF".toList, "(BLABLA)".toList], more := [],
    alloc := "80.0".toList, fmv := "80,000.0".toList, ownLine := false, allocVal := 80, fmvVal := 80000 }
def exRowB : SecRow :=
  { first := ["ANOTHER".toList, "GIC".toList, "01/01/2025".toList],
    more := [["5.00%".toList, "2Y".toList, "CPD".toList, "DUE".toList, "01/01/2025".toList, "INT".toList, "5.00%".toList],
             ["(YYYYYY)".toList]],
    alloc := "15.0".toList, fmv := "15,000.0".toList, ownLine := true, allocVal := 15, fmvVal := 15000 }
def exRowSingle : SecRow :=
  { first := ["SOME".toList, "GIC".toList, "01/01/2024".toList],
    more := [["4.00%".toList, "1Y".toList, "DUE".toList, "01/01/2024".toList, "INT".toList, "4.000%".toList, "(XXXXXX)".toList]],
    alloc := "100.0".toList, fmv := "99,999.99".toList, ownLine := true, allocVal := 100, fmvVal := 9999999 / 100 }
def exHeader : Line := ["ALLOCATION".toList, "(%)²".toList, "MARKET".toList, "VALUE".toList, "($)³".toList]
def exTable (rows : List SecRow) : Table :=
  { pre := [["Securities".toList, "Owned".toList]], header := exHeader, mid := [], rows := rows,
    totalLead := "100.0".toList, total := "100,000.01".toList, totalVal := 10000001 / 100, post := [["x".toList]] }

example : (exTable [exRowA, exRowB]).WF := Table.wf_of_wfb (by decide +kernel)
example : (exTable []).WF := Table.wf_of_wfb (by decide +kernel)
example : (exTable [exRowSingle]).WF := Table.wf_of_wfb (by decide +kernel)
example : totalRow [exRowSingle.alloc, exRowSingle.fmv] ≠ none := by decide +kernel

def cexRow : SecRow :=
  { first := ["GOVT".toList, "BOND".toList, "2.5".toList, "2030".toList], more := [],
    alloc := "100.0".toList, fmv := "50,000.00".toList, ownLine := true, allocVal := 100, fmvVal := 50000 }

/-- The restriction is needed (open finding F-20b).  A single 100 % holding in the documented
    layout — figures on their own line — whose description ends in two number-like tokens
    (`GOVT BOND 2.5 2030`) is returned with the tail of its description as allocation and market
    value, and its real figures line is taken for the table total. -/
theorem C20_numeric_tail_counterexample :
    parsePage (exTable [cexRow]).layout
      = .ok ([{ desc := ["GOVT".toList, "BOND".toList], alloc := 5 / 2, fmv := 2030 }], 50000) ∧
    parsePage (exTable [cexRow]).layout ≠ .ok ([cexRow.toFmv], (exTable [cexRow]).totalVal) := by
  have h : parsePage (exTable [cexRow]).layout
      = .ok ([{ desc := ["GOVT".toList, "BOND".toList], alloc := 5 / 2, fmv := 2030 }], 50000) := by
    decide +kernel
  rw [h]
  exact ⟨rfl, by decide +kernel⟩

/-- If the first page carrying the `Securities Owned Combined in (CAD)` marker holds a well-formed
    table, no earlier page (nor that page) has an unreadable date after `Current month:`, and a
    statement date has been seen by then, `parse_statement_text` returns that month, every row of
    the table once, and the total — whatever other pages surround them. -/
theorem C20_statement_partial (before after : List Page) (pg : Page) (t : Table) (d : Int)
    (hb : ∀ p ∈ before, p.marker = false ∧ p.month ≠ .invalid)
    (hm : pg.marker = true) (hpm : pg.month ≠ .invalid)
    (ht : t.WF) (hl : pg.lines.filter nonblank = t.layout.filter nonblank)
    (hd : monthAfter none ((before ++ [pg]).map (·.month)) = some d) :
    parseStatement (before ++ pg :: after)
      = .ok { month := d, fmvs := t.rows.map SecRow.toFmv, total := t.totalVal } := by
  unfold parseStatement
  rw [parseStatementFrom_skip none hb]
  refine parseStatementFrom_cons_table _ after hm hpm (C20_each_security_once_partial t ht pg.lines hl) ?_
  rw [← monthAfter_append]
  simpa using hd

example : monthAfter none ([.absent, .badName, .date 2460369, .date 5].map id) = some 2460369 := by decide

end Acb
