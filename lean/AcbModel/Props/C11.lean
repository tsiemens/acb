/-
  C11 — Writing transactions to CSV and reading them back is the identity.

  Model: AcbModel/App/CsvCodec.lean (`toTable` = txs_to_csv_table, `readTxs` = parse_tx_csv +
  Tx::try_from, `Tx.toCsv` = Tx::to_csvtx).  The `csv` crate is the parameter pair
  `encode`/`decode` with the law `decode (encode t) = t`.

  `Tx.valid` is the domain ("every valid transaction list"): what the Rust types guarantee (sign
  constraints, affiliate built by from_strep, CAD ⇒ rate 1) plus the parser's normal form
  (security and currency codes trimmed, `reverse_integer_only` only on whole-number reverse
  splits, no negative zero, rendered numbers within 96 bits).
  `Tx.norm` brings every decimal to the representative of its `==` class, so equality of
  `norm`s is Rust's `==` on `Tx` (plus equal sign bits); `canonTxs` trims memos — the one
  difference the property allows ("memo up to surrounding whitespace").
-/
import AcbModel.Lemmas.CsvTable
import AcbModel.Lemmas.CsvAffiliate
import AcbModel.Generated.CsvTables
namespace Acb
open Csv

/-- Column names, export order and optional columns of the model are those of
    `csv_common.rs` / `txs_to_csv_table`. -/
theorem C11_columns_match_source :
    Gen.csvColNames = allCols.map (fun c => String.ofList c.name) ∧
    Gen.csvExportOrder.map (fun i => (Gen.csvColIdents.zip Gen.csvColNames).lookup i)
      = exportOrder.map (fun c => some (String.ofList c.name)) ∧
    Gen.csvOptionalCols.map (fun i => (Gen.csvColIdents.zip Gen.csvColNames).lookup i)
      = (allCols.filter Col.optional).map (fun c => some (String.ofList c.name)) := by
  simp only [allCols, exportOrder, List.map, List.filter, Col.optional, Col.name, strOf, String.ofList_toList]
  decide +kernel

theorem C11_formats_match_source :
    Gen.csvMinPrecShares = 0 ∧ Gen.csvMinPrecAps = 2 ∧ Gen.csvMinPrecCommission = 2 ∧
    Gen.csvMinPrecTxFx = 0 ∧ Gen.csvMinPrecCommFx = 0 ∧ Gen.csvMinPrecSfl = 2 ∧
    Gen.csvActionShown = [Act.buy, .sell, .roc, .sfla, .split].map (fun a => String.ofList a.render) ∧
    Gen.csvActionRead = [Act.buy, .sell, .roc, .sfla, .split].map (fun a => String.ofList (lower a.render)) ∧
    Gen.globalAffiliateId.toList = AffData.global.id := by
  decide +kernel

/-- Exact decimal values: the text written for any decimal (scale 0–28, any 96-bit mantissa whose
    padded text still fits) at minimum precision 0 or 2 is read back as the same value with the
    same sign, and the text depends on sign and value only. -/
theorem C11_decimal_cells (d : Dec) (p : Nat) (hp : p ≤ 28) (h : d.renderable p = true) :
    ∃ d', parseDec (d.toStringMinPrecision p) = .ok d' ∧ d'.norm = d.norm ∧
      d'.toStringMinPrecision p = d.toStringMinPrecision p := by
  obtain ⟨d', h1, h2⟩ := dec_render_parse d p hp h
  exact ⟨d', h1, h2.norm_eq, h2.toStringMinPrecision_eq p⟩

/-- Split ratios in every written form (`N-for-M`, `N.0-for-M.0`, non-integer): both numbers
    come back as the same values, `reverse_integer_only` is restored, and the ratio prints as
    the same text again. -/
theorem C11_split_cells (r : SplitRatio) (h : r.valid = true) :
    ∃ r', parseSplit r.display = some r' ∧ r'.pre.norm = r.pre.norm ∧ r'.post.norm = r.post.norm ∧
      r'.intOnly = r.intOnly ∧ r'.display = r.display := by
  obtain ⟨r', h1, ⟨h2, h3, h4⟩, h5⟩ := splitratio_display_parse r h
  exact ⟨r', h1, h2.norm_eq, h3.norm_eq, h4, h5⟩

/-- Superficial-loss marker including the force flag. -/
theorem C11_sfl_cells (v : Dec × Bool) (h : sflValid v = true) :
    ∃ v', parseSfl (renderSfl v) = .ok v' ∧ v'.1.norm = v.1.norm ∧ v'.2 = v.2 := by
  obtain ⟨v', h1, h2, h3⟩ := sfl_render_parse v h
  exact ⟨v', h1, h2.norm_eq, h3⟩

theorem C11_date_action_cells (t : Date) (h : t.valid = true) (a : Act) :
    parseDate t.render = some t ∧ parseAct a.render = some a :=
  ⟨date_render_parse t h, act_render_parse a⟩

/-- Every affiliate spelling: whatever text `from_strep` is given, the name it produces is read
    back as the same affiliate (id, name, registered flag), and that name is what the table writer
    puts into the cell (trimmed, not blank).  So the affiliate conditions of `Tx.valid` hold for
    every affiliate the implementation can construct. -/
theorem C11_affiliate_name_fixpoint (s : Str) :
    fromStrep (fromStrep s).name = fromStrep s ∧
    trim (fromStrep s).name = (fromStrep s).name ∧ (fromStrep s).name ≠ [] :=
  ⟨affiliate_name_fixpoint s, fromStrep_name_trimmed s, fromStrep_name_ne_nil s⟩

/-- C11, the round trip.  For every list of valid transactions (any length, every action,
    every affiliate, any memo text): writing the list as a CSV table (`txs_to_csv_table` over
    `Tx::to_csvtx`, then any quoting layer that decodes what it encodes) and reading it back
    (`parse_tx_csv`, then `Tx::try_from` on every row) succeeds and yields the same
    transactions — same security, dates, action, decimal values, currencies and rates, affiliate,
    superficial-loss marker with force flag, split ratio with `reverse_integer_only` — with memos
    trimmed.  (Rows are renumbered from `start`; the read index is not part of the file.) -/
theorem C11_roundtrip {β : Type} (encode : Table → β) (decode : β → Table)
    (hcsv : ∀ t, decode (encode t) = t)
    (txs : List Tx) (hv : ∀ t ∈ txs, t.valid = true) (start : Nat) :
    ∃ txs', readTxs (decode (encode (toTable (txs.map Tx.toCsv)))) start = .ok txs' ∧
      txs'.map Tx.norm = (canonTxs txs).map Tx.norm := by
  rw [hcsv]
  obtain ⟨txs', h1, h2⟩ := read_written txs hv start
  exact ⟨txs', h1, h2.map_eq (fun _ _ => TxSame.norm_eq)⟩

/-- The canonical list differs from the original in memo whitespace only: when no affiliate
    column is written every affiliate already has the default id. -/
theorem C11_canon_only_trims (txs : List Tx) (t : Tx) (ht : t ∈ txs) :
    let c := canonTx (colInUse (txs.map Tx.toCsv) .affiliate) t
    c.memo = trim t.memo ∧ c.security = t.security ∧ c.tradeDate = t.tradeDate ∧
    c.settleDate = t.settleDate ∧ c.spec = t.spec ∧ c.affiliate.id = t.affiliate.id := by
  refine ⟨rfl, rfl, rfl, rfl, rfl, ?_⟩
  simp only [canonTx]
  cases h : colInUse (txs.map Tx.toCsv) .affiliate with
  | true => rfl
  | false =>
    rw [(affcol_false h ht).1]
    exact defaultId_eq

/-- C11, same bytes.  Writing the re-read list again yields the bytes of the canonical
    list; when the memos carry no surrounding white space these are the bytes of the first
    write. -/
theorem C11_idempotent_bytes {β : Type} (encode : Table → β) (decode : β → Table)
    (hcsv : ∀ t, decode (encode t) = t)
    (txs : List Tx) (hv : ∀ t ∈ txs, t.valid = true) (start : Nat) :
    ∃ txs', readTxs (decode (encode (toTable (txs.map Tx.toCsv)))) start = .ok txs' ∧
      encode (toTable (txs'.map Tx.toCsv)) = encode (toTable ((canonTxs txs).map Tx.toCsv)) ∧
      ((∀ t ∈ txs, trim t.memo = t.memo) →
        encode (toTable (txs'.map Tx.toCsv)) = encode (toTable (txs.map Tx.toCsv))) := by
  rw [hcsv]
  obtain ⟨txs', h1, h2⟩ := read_written txs hv start
  have h3 : toTable (txs'.map Tx.toCsv) = toTable ((canonTxs txs).map Tx.toCsv) :=
    toTable_congr (h2.map (fun _ _ => TxSame.csv))
  refine ⟨txs', h1, by rw [h3], fun hm => ?_⟩
  rw [h3, toTable_canon txs hm]

/-! Non-vacuity: a list with every action, a registered affiliate, foreign currencies, a
    forced superficial loss and a `1.0-for-2.0` split satisfies the hypotheses. -/

def c11ExampleTxs : List Tx :=
  [ { security := strOf "FOO", tradeDate := ⟨2020, 1, 2⟩, settleDate := ⟨2020, 1, 6⟩,
      spec := .buy ⟨false, 105, 1⟩ ⟨false, 123456, 4⟩ ⟨false, 0, 0⟩ ⟨strOf "USD", ⟨false, 13421, 4⟩⟩
                (some ⟨strOf "CAD", ⟨false, 10, 1⟩⟩),
      memo := strOf " bought, \"cheap\"\n", affiliate := fromStrep (strOf " spouse (r) "), readIndex := 7 },
    { security := strOf "FOO", tradeDate := ⟨2020, 2, 28⟩, settleDate := ⟨2020, 3, 3⟩,
      spec := .sell ⟨false, 5, 0⟩ ⟨false, 99, 1⟩ ⟨false, 995, 2⟩ ⟨strOf "CAD", ⟨false, 1, 0⟩⟩ none
                (some (⟨true, 1250, 3⟩, true)),
      memo := [], affiliate := fromStrep (strOf "Default"), readIndex := 0 },
    { security := strOf "BAR.TO", tradeDate := ⟨2021, 12, 31⟩, settleDate := ⟨2022, 1, 4⟩,
      spec := .roc ⟨false, 25, 3⟩ ⟨strOf "XYZ", ⟨false, 5, 1⟩⟩,
      memo := strOf "é", affiliate := fromStrep [], readIndex := 1 },
    { security := strOf "FOO", tradeDate := ⟨2022, 6, 1⟩, settleDate := ⟨2022, 6, 1⟩,
      spec := .sfla ⟨false, 5, 0⟩ ⟨false, 25, 2⟩, memo := [], affiliate := fromStrep [], readIndex := 2 },
    { security := strOf "FOO", tradeDate := ⟨2022, 7, 1⟩, settleDate := ⟨2022, 7, 1⟩,
      spec := .split ⟨⟨false, 2, 0⟩, ⟨false, 1, 0⟩, false⟩, memo := [],
      affiliate := AffData.global, readIndex := 3 } ]

example : c11ExampleTxs.all Tx.valid = true := by decide +kernel
example : (toTable (c11ExampleTxs.map Tx.toCsv)).header.length = 14 := by decide +kernel
example : ((toTable (c11ExampleTxs.map Tx.toCsv)).rows.map (fun r => r.map String.ofList))[4]? =
    some ["FOO", "2022-07-01", "2022-07-01", "Split", "", "", "", "", "", "", "", "1.0-for-2.0",
      "__global__", ""] := by decide +kernel
example : (Dec.mk false 79228162514264337593543950335 28).renderable 2 = true := by decide +kernel
example : (SplitRatio.mk ⟨false, 3, 0⟩ ⟨false, 1, 0⟩ true).valid = true := by decide +kernel
example : sflValid (⟨true, 5, 1⟩, true) = true := by decide +kernel

/-- A zero that carries the sign bit (constructible through the API only — no reader produces
    one) is written `-0.00`, read back as `0`, and written `0.00` the second time: without the
    "no negative zero" condition the bytes are not stable. -/
theorem C11_negative_zero_counterexample :
    let tx : Tx := { security := strOf "FOO", tradeDate := ⟨2020, 1, 2⟩, settleDate := ⟨2020, 1, 2⟩,
                     spec := .sell ⟨false, 1, 0⟩ ⟨false, 1, 0⟩ ⟨false, 0, 0⟩ ⟨cad, Dec.one⟩ none
                               (some (⟨true, 0, 0⟩, false)),
                     memo := [], affiliate := AffData.default, readIndex := 0 }
    ∃ txs', readTxs (toTable ([tx].map Tx.toCsv)) 0 = .ok txs' ∧
      txs'.map Tx.norm ≠ [tx].map Tx.norm ∧
      toTable (txs'.map Tx.toCsv) ≠ toTable ([tx].map Tx.toCsv) := by
  intro tx
  -- the list read back is given outright, so that each conjunct is one evaluation
  refine ⟨[{ tx with spec := .sell ⟨false, 1, 0⟩ ⟨false, 100, 2⟩ ⟨false, 0, 2⟩ ⟨cad, Dec.one⟩ none
                               (some (⟨false, 0, 2⟩, false)) }], ?_, by decide +kernel, fun h => ?_⟩
  · rw [readTxs_toTable]
    exact eq_ok_of_toOption (by decide +kernel)
  · exact absurd (congrArg Table.rows h) (by decide +kernel)

/-- A whole-number reverse split that allows fractions is written `N.0-for-M.0` and read with
    `from_str_exact`: when `M·10` no longer fits 96 bits the file cannot be read back.  Hence the
    "room for one more digit" condition of `SplitRatio.valid`. -/
theorem C11_split_overflow_counterexample :
    let r : SplitRatio := ⟨⟨false, 7922816251426433759354395034, 0⟩, ⟨false, 1, 0⟩, false⟩
    r.pre.isPos = true ∧ r.post.isPos = true ∧ r.pre.InRange ∧ r.post.InRange ∧ parseSplit r.display = none := by
  decide +kernel

end Acb
