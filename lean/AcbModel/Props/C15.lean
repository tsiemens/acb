/-
  C15 — Stock splits are value-neutral.
-/
import AcbModel.App.Pipeline
import AcbModel.Lemmas.Step
import AcbModel.Lemmas.Scaling
namespace Acb
open Spec

def scaleBook (f : Rat) (b : Book) : Book := { b with shares := b.shares * f }

/-- C15 (the split row itself).  A split changes neither the cost base nor any gain; it
    multiplies the affiliate's share balance by post/pre. -/
theorem C15_split_row {pre : Status} {post pre' : Rat} {io : Bool} {o : ArmOut}
    (h : armSplit pre post pre' io = .ok o) :
    o.post.acb = pre.acb ∧ o.gain = none ∧ o.sfl = none ∧ o.inj = [] ∧
    o.post.shares = pre.shares * (post / pre') := by
  obtain ⟨_, _, rfl⟩ := armSplit_ok_iff.mp h
  exact ⟨rfl, rfl, rfl, rfl, rfl⟩

/-- C15 (rule-book level, one row).  Under the average-cost rules, a row restated for an
    `f`-fold split acts on the `f`-scaled book exactly as the original row acts on the original
    book: the resulting book is the scaled one and the gain is unchanged. -/
theorem C15_rulebook_step (f : Rat) (hf : f ≠ 0) (b : Book) (act : Action) :
    stepBook (scaleBook f b) (restateAct f act) = scaleBook f (stepBook b act) ∧
    gain0 (scaleBook f b) (restateAct f act) = gain0 b act := by
  have e : ∀ a sh : Rat, a * (sh * f) / (b.shares * f) = a * sh / b.shares := fun a sh => by
    rw [← Rat.mul_assoc, scaled_ratio_eq hf]
  cases act <;>
    simp only [restateAct, stepBook, scaleBook, gain0, restate_amount hf, restate_amount' hf, e, scale_sub, Rat.add_mul,
      and_self]
  case split post pre io =>
    simp only [Book.mk.injEq, and_true]
    grind

/-- C15 (rule-book level, whole history).  Restating every row after a split for all
    affiliates and scaling the books by the split factor commute: the books after the restated
    rows are the scaled books after the original rows. -/
theorem C15_rulebook_neutral (f : Rat) (hf : f ≠ 0) (rows : List Tx) (bs : Books) :
    after (fun a => scaleBook f (bs a)) (rows.map (restateTx f)) = fun a => scaleBook f (after bs rows a) := by
  induction rows generalizing bs with
  | nil => rfl
  | cons r rs ih =>
    have e : stepBooks (fun a => scaleBook f (bs a)) (restateTx f r) = fun a => scaleBook f (stepBooks bs r a) := by
      funext a
      rw [stepBooks_apply, stepBooks_apply, restateTx_aff, restateTx_act]
      split
      · exact (C15_rulebook_step f hf (bs r.aff) r.act).1
      · rfl
    rw [List.map_cons, after_cons, after_cons, e]
    exact ih (stepBooks bs r)

theorem C15_rulebook_split (bs : Books) (t : Tx) (post pre : Rat) (io : Bool) (h : t.act = .split post pre io) :
    stepBooks bs t t.aff = scaleBook (post / pre) (bs t.aff) := by
  simp [stepBooks_self, stepBook, h, scaleBook]

end Acb

namespace Acb

/-- C15 (one row for all affiliates = one row per affiliate).  A split addressed to all
    affiliates is processed as one split row per affiliate holding the security (in affiliate-id
    order), placed where the row stood; every other row is left as it is. -/
theorem C15_global_eq_per_affiliate (affs : List Aff) (pre post : List PRow) (g : PRow)
    (hg : isGlobalSplit g = true) :
    expandSplits affs (pre ++ g :: post) =
      expandSplits affs pre ++ affs.map (fun a => { g.tx with aff := a }) ++ expandSplits affs post := by
  unfold expandSplits
  simp [List.flatMap_append, hg]

/-! Non-vacuity: `Buy 10 @10; Sell 4 @12` versus `Buy 10 @10; Split 2-for-1; Sell 8 @6`: same gain
    (8), same remaining cost base (60), shares doubled. -/
private def a0 : Aff := ⟨0, false⟩
private def hA : List Tx := [
  { trade := 0, settle := 0, idx := 0, aff := a0, act := .buy 10 10 0 1 none },
  { trade := 50, settle := 50, idx := 1, aff := a0, act := .sell 4 12 0 1 none none } ]
private def hB : List Tx := [
  { trade := 0, settle := 0, idx := 0, aff := a0, act := .buy 10 10 0 1 none },
  { trade := 20, settle := 20, idx := 1, aff := a0, act := .split 2 1 false },
  restateTx 2 { trade := 50, settle := 50, idx := 2, aff := a0, act := .sell 4 12 0 1 none none } ]
example : ((deltaList a0 none hA).1.map (fun d => (d.gain, d.post.acb, d.post.shares))) =
    [(none, some 100, 10), (some 8, some 60, 6)] := by decide +kernel
example : ((deltaList a0 none hB).1.map (fun d => (d.gain, d.post.acb, d.post.shares))) =
    [(none, some 100, 10), (none, some 100, 20), (some 8, some 60, 12)] := by decide +kernel

end Acb
