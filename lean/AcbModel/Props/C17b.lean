/-
  C17 / C05 — `WF rows` of Props/C17.lean, discharged for the rows `run_acb_app_to_render_model` hands
  to `calc_total_costs` (the delta lists, complete or cut short by an error: `deltas_or_partial_deltas`).
  Neither `d.pre_status.total_acb.unwrap()` nor `panic!("Deltas for {sec} were not sorted …")` is then reachable.
-/
import AcbModel.Props.C17
import AcbModel.Props.C09b
import AcbModel.Lemmas.ValidCheck
namespace Acb
open Acb.Costs

/-- one security's input to the ledger: its id, opening position and parsed rows -/
structure SecLedger where
  sec : Nat
  init : Option Status
  txs : List Tx

/-- `all_deltas` of `run_acb_app_to_render_model`, as report rows -/
def ledgerRows (isDefault : Aff → Bool) (dflt : Aff) (L : List SecLedger) : List Row :=
  L.flatMap (fun l => (deltaList dflt l.init l.txs).1.map (rowOfDelta isDefault l.sec))

/-- C17 (the ledger's output meets the report's precondition), for all securities, opening
    positions and rows of any length, whether or not a security's ledger fails part-way. -/
theorem C17_ledger_rows_wf (isDefault : Aff → Bool) (dflt : Aff) (L : List SecLedger)
    (hsec : L.Pairwise (fun a b => a.sec ≠ b.sec))
    (hv : ∀ l ∈ L, ∀ tx ∈ l.txs, tx.Valid) (hi : ∀ l ∈ L, InitOk dflt l.init)
    (hs : ∀ l ∈ L, l.txs.Pairwise (fun a b => a.settle ≤ b.settle)) :
    WF (ledgerRows isDefault dflt L) :=
  WF_flatMap SecLedger.sec _ L hsec
    (fun l hl => C09_ledger_model_rows_ok isDefault dflt l.sec l.init l.txs (hv l hl) (hi l hl) (hs l hl))

/-- C17/C05 (the cost report never panics on ledger output). -/
theorem C17_ledger_costs_no_panic (yearOf : Int → Int) (σ : List Nat → List Nat) (τ : List Int → List Int)
    (isDefault : Aff → Bool) (dflt : Aff) (L : List SecLedger)
    (hsec : L.Pairwise (fun a b => a.sec ≠ b.sec))
    (hv : ∀ l ∈ L, ∀ tx ∈ l.txs, tx.Valid) (hi : ∀ l ∈ L, InitOk dflt l.init)
    (hs : ∀ l ∈ L, l.txs.Pairwise (fun a b => a.settle ≤ b.settle)) :
    ∃ c, calcTotalCosts yearOf (ledgerRows isDefault dflt L) σ τ = .ok c :=
  C17_no_panic yearOf _ σ τ (C17_ledger_rows_wf isDefault dflt L hsec hv hi hs)

/-! Non-vacuity: two securities, the second with a registered affiliate, an opening position and an
    over-sale (so its ledger is cut short and the report is fed the partial list); the first with a
    superficial loss (a generated adjustment row).  The hypotheses hold and the report is computed. -/
private def bDflt : Aff := { key := 0, registered := false }
private def bReg : Aff := { key := 1, registered := true }
private def bL : List SecLedger := [
  { sec := 0, init := none, txs := [
      { trade := 1, settle := 3, idx := 0, aff := bDflt, act := .buy 10 20 5 1 none },
      { trade := 50, settle := 52, idx := 1, aff := bDflt, act := .sell 4 10 1 1 none none },
      { trade := 55, settle := 57, idx := 2, aff := bDflt, act := .buy 4 11 0 1 none } ] },
  { sec := 1, init := some { shares := 5, all := 5, acb := some 40 }, txs := [
      { trade := 2, settle := 4, idx := 3, aff := bReg, act := .buy 7 21 0 1 none },
      { trade := 9, settle := 9, idx := 4, aff := bDflt, act := .sell 2 30 0 1 none none },
      { trade := 20, settle := 22, idx := 5, aff := bDflt, act := .sell 9 30 0 1 none none },
      { trade := 30, settle := 32, idx := 6, aff := bDflt, act := .buy 1 1 0 1 none } ] } ]

example : bL.Pairwise (fun a b => a.sec ≠ b.sec) := by decide
example : ∀ l ∈ bL, ∀ tx ∈ l.txs, tx.Valid := fun l hl tx ht =>
  Tx.valid_of_validB ((by decide +kernel : ∀ l ∈ bL, ∀ tx ∈ l.txs, tx.act.validB = true) l hl tx ht)
example : ∀ l ∈ bL, InitOk bDflt l.init := by
  intro l hl
  refine ⟨rfl, ?_⟩
  simp only [bL, List.mem_cons, List.not_mem_nil, or_false] at hl
  rcases hl with rfl | rfl
  · intro s h; cases h
  · intro s h
    simp only [Option.some.injEq] at h
    subst h
    exact ⟨rfl, by decide, 40, rfl, by decide⟩
example : ∀ l ∈ bL, l.txs.Pairwise (fun a b => a.settle ≤ b.settle) := by decide
example : bL.map (fun l => ((deltaList bDflt l.init l.txs).1.length, (deltaList bDflt l.init l.txs).2.isSome)) =
    [(4, false), (2, true)] := by decide +kernel
example : (ledgerRows (· == bDflt) bDflt bL).map (fun r => (r.sec, r.day, r.post, r.dflt)) =
    [(0, 3, some 205, true), (0, 52, some 123, true), (0, 52, some 166, true), (0, 57, some 210, true),
     (1, 4, none, false), (1, 9, some 24, true)] := by decide +kernel

end Acb
