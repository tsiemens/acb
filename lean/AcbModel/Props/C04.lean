/-
  C04 — Balances never go negative; histories are rejected iff impossible, visibly.
  (Ledger-level part: invariants of every report row, and which failures can occur at all.
   The application-level part — error attached to the security, excluded from totals, shown in
   every output mode — is in Props/C04c.lean, Props/C04d.lean and the render model.)
-/
import AcbModel.Lemmas.WfLoop
import AcbModel.Props.C01
namespace Acb
open Spec

/-- **C04 (no negative figure).**  No report row shows a negative share balance, all-affiliate
    balance or cost base — for every opening position and every list of parsed rows. -/
theorem C04_nonneg (dflt : Aff) (init : Option Status) (txs : List Tx)
    (hv : ∀ tx ∈ txs, tx.Valid) (hi : InitOk dflt init) :
    ∀ d ∈ (deltaList dflt init txs).1,
      0 ≤ d.post.shares ∧ 0 ≤ d.post.all ∧ ∀ c, d.post.acb = some c → 0 ≤ c := by
  intro d hd
  obtain ⟨bs', h⟩ := ListP_mem (deltaList_wf dflt init txs hv hi).1 d hd
  exact ⟨h.post.sh, h.allNonneg, h.post.acb⟩

/-- **C04 (all-affiliate balance).**  After every row, the all-affiliate share balance shown equals
    the sum of the affiliates' latest balances (as given by the rule book after rows `0..i`):
    there is a duplicate-free list `U` of affiliates outside of which every balance is zero, and
    the figure is the sum over `U`. -/
theorem C04_total (dflt : Aff) (init : Option Status) (txs : List Tx)
    (hv : ∀ tx ∈ txs, tx.Valid) (hi : InitOk dflt init)
    (i : Nat) (hlt : i < (deltaList dflt init txs).1.length) :
    let ds := (deltaList dflt init txs).1
    let bsi := after (Books.init dflt init) ((ds.take (i + 1)).map (·.tx))
    ∃ U : List Aff, U.Nodup ∧ (∀ a, a ∉ U → (bsi a).shares = 0) ∧
      ds[i].post.all = sumOver U (fun a => (bsi a).shares) := by
  intro ds bsi
  have h := ListP_index (deltaList_wf dflt init txs hv hi).1 i hlt
  obtain ⟨U, hn, hz, hs⟩ := h.total
  have e : bsi = stepBooks (after (Books.init dflt init) ((ds.take i).map (·.tx))) ds[i].tx := by
    show after _ _ = _
    rw [List.take_succ_eq_append_getElem hlt, List.map_append, after_append]
    rfl
  exact ⟨U, hn, by rw [e]; exact hz, by rw [e]; exact hs⟩

/-- **C04 (registered affiliates never show a cost base or a capital gain).** -/
theorem C04_registered (dflt : Aff) (init : Option Status) (txs : List Tx)
    (hv : ∀ tx ∈ txs, tx.Valid) (hi : InitOk dflt init) :
    ∀ d ∈ (deltaList dflt init txs).1, d.tx.aff.registered = true →
      d.pre.acb = none ∧ d.post.acb = none ∧ d.gain = none :=
  C01_registered dflt init txs hv hi.dflt

/-- **C04/C05 (which failures exist).**  Whatever the parsed rows, `txs_to_delta_list` can only
    fail with one of the user-facing errors (over-sale, RoC above cost base, RoC/SfLA on a registered
    affiliate, whole-number reverse split leaving a fraction, declared superficial loss without a
    loss or off by more than the allowance, a negative balance in the look-ahead window): the
    three `sanity_check_ptfs` errors and every `assert!`/`unwrap` of the bookkeeping core are
    unreachable. -/
theorem C04_only_user_errors (dflt : Aff) (init : Option Status) (txs : List Tx)
    (hv : ∀ tx ∈ txs, tx.Valid) (hi : InitOk dflt init) :
    ∀ f, (deltaList dflt init txs).2 = some f → UserErr f :=
  (deltaList_wf dflt init txs hv hi).2

end Acb
