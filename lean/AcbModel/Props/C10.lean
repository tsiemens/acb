/-
  C10 — A summary CSV reproduces the history it replaces.  Here, at the level of the average-cost
  rule book (Spec) that the ledger refines (C01): the summary rows of an affiliate rebuild its holding
  in both summary modes, and in annual-gains mode each summary sale realises the year's net gain.
-/
import AcbModel.App.Summary
import AcbModel.Lemmas.SummaryReplay
namespace Acb
open Spec

/-- replay rows of one affiliate on its own book -/
def replay (b : Book) (rows : List Tx) : Book := rows.foldl (fun b r => stepBook b r.act) b

/-- C10 (simple mode: the summary rows rebuild the holding).  For every well-formed status
    (non-negative shares and cost base, cost base absent iff registered), replaying the rows
    `make_simple_summary_txs` generates on the affiliate's empty book gives back exactly the
    affiliate's shares and cost base — including the case of a cost base held with no shares. -/
theorem C10_simple_rebuilds (af : Aff) (d : Delta) (hok : StatusOk af d.post) :
    replay (Book.zero af) (simpleSummary af d) = bookOf d.post := by
  rw [simpleSummary_shape]
  rcases summaryRowsOf_arm hok d.tx.settle with ⟨h0, hb, hd⟩ | ⟨row, h1, -, hsell, harm⟩
  · rw [h0]
    simp only [replay, List.foldl_nil, Book.zero, bookOf, hb, hd, defaultStatus]
  · rw [h1]
    exact (arm_book (fun _ _ _ _ _ _ h => by simp [h, Action.isSell] at hsell) (harm (.empty af) 0 [] [])).1.symm

/-- gain realised by a sale row on a book, under the average-cost rules -/
def saleGain (b : Book) (t : Tx) : Option Rat := gain0 b t.act

/-- the annual-gains sale of one year: 1 share at `aps + gain`, commission `loss` -/
def annualSell (af : Aff) (jan1 : Int → Int) (aps : Rat) (y : Int) (g : Rat) : Tx :=
  { trade := jan1 y, settle := jan1 y, idx := 0, aff := af,
    act := .sell 1 (aps + (if g < 0 then 0 else g)) (if g < 0 then -g else 0) 1 none none }

/-- C10 (annual-gains mode: each summary sale realises the year's net gain and leaves the
    per-share cost untouched).  On a book holding `n ≥ 1` shares at an average cost of `aps` per
    share, the summary sale of a year with net gain `g` realises exactly `g` and leaves `n − 1`
    shares at the same average cost. -/
theorem C10_annual_sell (af : Aff) (jan1 : Int → Int) (aps : Rat) (n : Rat) (hn : 1 ≤ n) (y : Int) (g : Rat) :
    let b : Book := { shares := n, acb := some (aps * n) }
    saleGain b (annualSell af jan1 aps y g) = some g ∧
    stepBook b (annualSell af jan1 aps y g).act = { shares := n - 1, acb := some (aps * (n - 1)) } := by
  intro b
  have hne : n ≠ 0 := fun h => absurd (h ▸ hn) (by decide)
  have e1 : aps * n * 1 / n = aps := by rw [Rat.mul_one, Rat.mul_div_cancel hne]
  have e2 : aps * n - aps = aps * (n - 1) := by grind
  unfold saleGain annualSell gain0 stepBook
  simp only [Option.map_some, commRate, Option.getD_none, b, e1, e2]
  by_cases hg : g < 0
  · simp only [hg, if_true]
    refine ⟨?_, trivial⟩
    congr 1
    grind
  · simp only [hg, if_false]
    refine ⟨?_, trivial⟩
    congr 1
    grind

/-- C10 (annual-gains mode: after all the yearly sales the holding is the summarised one).
    Starting from `shares + k` shares at `aps` per share, `k` summary sales leave `shares` shares
    at `aps` per share, whatever the yearly gains. -/
theorem C10_annual_rebuilds (af : Aff) (jan1 : Int → Int) (aps shares : Rat) (hs : 0 ≤ shares) :
    ∀ (gains : List (Int × Rat)),
    replay { shares := shares + (gains.length : Rat), acb := some (aps * (shares + (gains.length : Rat))) }
      (gains.map (fun p => annualSell af jan1 aps p.1 p.2)) = { shares := shares, acb := some (aps * shares) } := by
  intro gains
  induction gains with
  | nil =>
    have e : shares + ((([] : List (Int × Rat)).length : Nat) : Rat) = shares := Rat.add_zero _
    simp only [List.map_nil, replay, List.foldl_nil, e]
  | cons p ps ih =>
    simp only [List.map_cons, replay, List.foldl_cons, List.length_cons]
    have e : ((ps.length + 1 : Nat) : Rat) = (ps.length : Rat) + 1 := by push_cast; rfl
    have hn : (1 : Rat) ≤ shares + ((ps.length + 1 : Nat) : Rat) := by
      rw [e]
      grind
    rw [(C10_annual_sell af jan1 aps (shares + ((ps.length + 1 : Nat) : Rat)) hn p.1 p.2).2, e, ← Rat.add_assoc,
      Rat.add_sub_cancel]
    exact ih

/-- C10 (the summary date is inclusive in the source as in the model).  Regenerated on every
    run: the range selection stops at the first delta settling strictly after the summary date. -/
theorem C10_summary_date_inclusive : Gen.summaryRangeOp = ">" := by decide

end Acb
