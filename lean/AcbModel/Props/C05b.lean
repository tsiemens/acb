/-
  C05 at the level of the application pipeline, ledger and cost report together: `C04_pipeline` for
  every security, `C17_pipeline_costs_no_panic` for the `--total-costs` report computed from whatever
  the ledgers produced, complete or partial.
-/
import AcbModel.Props.C17c
import AcbModel.Props.C04d
namespace Acb
open Acb.Costs

/-- C05 (pipeline + cost report never panic). -/
theorem C05_pipeline_no_panic (yearOf : Int → Int) (σ : List Nat → List Nat) (τ : List Int → List Int)
    (isDefault : Aff → Bool) (dflt : Aff) (inits : Nat → Option Status)
    (rows : List PRow) (hv : ∀ r ∈ rows, r.tx.Valid) (hi : ∀ s, InitOk dflt (inits s)) :
    (∀ s, (∃ r ∈ rows, r.sec = s) →
      ∃ ds f, resultFor s (runPipeline dflt inits rows) = some (ds, f) ∧ ∀ site, f ≠ some (.panic site)) ∧
    ∃ c, calcTotalCosts yearOf (pipelineRows isDefault dflt inits rows) σ τ = .ok c := by
  refine ⟨?_, C17_pipeline_costs_no_panic yearOf σ τ isDefault dflt inits rows hv hi⟩
  intro s hs
  obtain ⟨ds, f, h, _, hp⟩ := C04_pipeline dflt inits rows hv s hs (hi s)
  exact ⟨ds, f, h, hp⟩

/-! Non-vacuity: the hypotheses are those of `C17_pipeline_rows_wf` (examples in Props/C17c.lean);
    an input whose only security over-sells ends in a user error and a (one-row) cost report. -/
private def oD : Aff := { key := 0, registered := false }
private def oRows : List PRow := [
  { sec := 0, glob := false, tx := { trade := 1, settle := 3, idx := 0, aff := oD, act := .buy 2 10 0 1 none } },
  { sec := 0, glob := false, tx := { trade := 5, settle := 7, idx := 1, aff := oD, act := .sell 3 10 0 1 none none } } ]

example : (resultFor 0 (runPipeline oD (fun _ => none) oRows)).map (fun r => (r.1.length, r.2.isSome)) =
    some (1, true) := by decide +kernel
example : (pipelineRows (· == oD) oD (fun _ => none) oRows).map (fun r => (r.day, r.post)) = [(3, some 20)] := by
  decide +kernel

end Acb
