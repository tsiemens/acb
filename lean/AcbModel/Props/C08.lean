/-
  C08 — Securities are computed independently; one security's error stays local.
  `runPipeline` is the model of `run_acb_app_to_delta_models` (sort the concatenated input by
  (settlement date, read index), split by security, expand global splits, run the ledger).
-/
import AcbModel.Lemmas.SecTxs
namespace Acb

/-- What the pipeline computes for one security, as a function of that security's rows alone. -/
def secResult (dflt : Aff) (init : Option Status) (rowsS : List PRow) :
    List Delta × Option Failure :=
  secResultSorted dflt init (sortRows rowsS)

/-- C08 (a security's table depends only on its own rows and opening position).
    For every input (any number of securities, any interleaving, erroneous or not) the result the
    pipeline reports for a security that has rows is `secResult` of that security's rows alone:
    the rows of every other security — including ones that fail bookkeeping or split validation —
    do not enter it. -/
theorem C08_table_local (dflt : Aff) (inits : Nat → Option Status)
    (rows : List PRow) (s : Nat) (hs : ∃ r ∈ rows, r.sec = s) :
    resultFor s (runPipeline dflt inits rows) =
      some (secResult dflt (inits s) (rowsOf s rows)) :=
  resultFor_runPipeline dflt inits hs

/-- C08 (adding or removing other securities changes nothing).  Two inputs that contain the
    same rows for security `s` (whatever else they contain) give `s` the same result. -/
theorem C08_other_rows_irrelevant (dflt : Aff) (inits : Nat → Option Status)
    (rows rows' : List PRow) (s : Nat) (hs : ∃ r ∈ rows, r.sec = s)
    (h : rowsOf s rows = rowsOf s rows') :
    resultFor s (runPipeline dflt inits rows) = resultFor s (runPipeline dflt inits rows') := by
  have hs' : ∃ r ∈ rows', r.sec = s := by
    obtain ⟨r, hr, hrs⟩ := hs
    exact ⟨r, (mem_rowsOf.mp (h ▸ mem_rowsOf.mpr ⟨hr, hrs⟩)).1, hrs⟩
  rw [C08_table_local dflt inits rows s hs, C08_table_local dflt inits rows' s hs', h]

/-- C08 (an error stays local).  Whatever failure (over-sale, split validation, …) the rows
    of other securities cause, security `s` still gets exactly the result of its own rows: in
    particular a complete, error-free ledger if its own rows are fine. -/
theorem C08_error_local (dflt : Aff) (inits : Nat → Option Status)
    (rows : List PRow) (s : Nat) (hs : ∃ r ∈ rows, r.sec = s)
    (hok : (secResult dflt (inits s) (rowsOf s rows)).2 = none) :
    ∃ ds, resultFor s (runPipeline dflt inits rows) = some (ds, none) := by
  rw [C08_table_local dflt inits rows s hs]
  exact ⟨(secResult dflt (inits s) (rowsOf s rows)).1, by rw [← hok]⟩

end Acb
