/-
  C02 at the level of the application pipeline: that the history is in settlement-date order, as
  `C02_every_reachable_sale` and the window lemmas behind `C02_rule` assume, is no assumption about
  the caller: it holds of the rows every security's ledger is run on, whatever the input.
-/
import AcbModel.Lemmas.SecTxs
namespace Acb

/-- C02 (pipeline level): every ledger runs on a date-sorted history of valid rows. -/
theorem C02_pipeline_histories_sorted (dflt : Aff) (inits : Nat → Option Status) (rows : List PRow)
    (hv : ∀ r ∈ rows, r.tx.Valid) (s : Nat) (hs : ∃ r ∈ rows, r.sec = s) :
    resultFor s (runPipeline dflt inits rows) = some ([], some (.err .splitConflict)) ∨
    ∃ txs, (∀ tx ∈ txs, tx.Valid) ∧ SettleAsc txs ∧
      resultFor s (runPipeline dflt inits rows) = some (deltaList dflt (inits s) txs) :=
  (pipeline_history_valid dflt inits hv s hs).imp_right fun h => ⟨_, h⟩

/-! Non-vacuity: an unsorted input with a global split; security 0's ledger runs on the sorted,
    expanded history. -/
private def qD : Aff := { key := 0, registered := false }
private def qR : Aff := { key := 1, registered := true }
private def qRows : List PRow := [
  { sec := 0, glob := false, tx := { trade := 50, settle := 52, idx := 0, aff := qD, act := .sell 4 30 1 1 none none } },
  { sec := 0, glob := true, tx := { trade := 20, settle := 20, idx := 1, aff := qD, act := .split 2 1 false } },
  { sec := 0, glob := false, tx := { trade := 2, settle := 4, idx := 2, aff := qR, act := .buy 7 21 0 1 none } },
  { sec := 0, glob := false, tx := { trade := 1, settle := 3, idx := 3, aff := qD, act := .buy 10 20 5 1 none } } ]

example : (secTxs qD none (sortRows (rowsOf 0 qRows))).map (fun t => (t.settle, t.aff.key)) =
    [(3, 0), (4, 1), (20, 0), (20, 1), (52, 0)] := by decide +kernel

end Acb
