/-
  C01 at the level of the application pipeline: a security's result is the ledger of its own rows
  (`pipeline_history_valid`), and the ledger refines the rule book (`C01_refines_spec`).
-/
import AcbModel.Props.C01
import AcbModel.Lemmas.SecTxs
namespace Acb
open Spec

/-- C01 (pipeline level).  For every input — any number of files' rows, securities and
    affiliates, in any interleaving — and every security that has rows: the rows reported for it
    conform to the average-cost rule book started from its opening position (its own rows in
    (settlement date, file order), a split for all affiliates standing for one split per holder);
    other securities' rows have no part in it. -/
theorem C01_pipeline (dflt : Aff) (inits : Nat → Option Status) (rows : List PRow)
    (hv : ∀ r ∈ rows, r.tx.Valid) (s : Nat) (hs : ∃ r ∈ rows, r.sec = s) :
    ∃ ds f, resultFor s (runPipeline dflt inits rows) = some (ds, f) ∧
      Conforms (Books.init dflt (inits s)) ds := by
  rcases pipeline_history_valid dflt inits hv s hs with h | ⟨hvt, _, h⟩
  · exact ⟨_, _, h, trivial⟩
  · exact ⟨_, _, h, C01_refines_spec dflt (inits s) _ hvt⟩

end Acb
