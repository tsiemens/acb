/-
  C01 — Cost-base ledger follows the average-cost rules exactly.

  `deltaList` is the model of `txs_to_delta_list`; `Spec` (AcbModel/Ledger/Spec.lean) is the
  average-cost rule book.
-/
import AcbModel.Lemmas.Loop
import AcbModel.Lemmas.ValidCheck
namespace Acb
open Spec

/-- **C01 (refinement).**  For every opening status and every list of parsed rows, every
    delta the ledger emits (all of them, or the prefix before a rejected row) has, as pre-status,
    the affiliate's book under the average-cost rules; as post-status, that book after the row's
    rule (purchase adds cost + commission at their own rates, sale removes cost in proportion,
    RoC subtracts per-share amount × shares held, SfLA adds its amount, split rescales shares
    only); and as gain, proceeds − commission − cost removed − denied loss.  Registered
    affiliates carry `acb = none` throughout (their books start and stay `none`).
    The rows the books are stepped through are the deltas' own rows, i.e. the input rows with
    the automatically generated SfLA rows in place. -/
theorem C01_refines_spec (dflt : Aff) (init : Option Status) (txs : List Tx)
    (hv : ∀ tx ∈ txs, tx.Valid) :
    Conforms (Books.init dflt init) (deltaList dflt init txs).1 :=
  Conforms_iff_listP.mpr (deltaList_gen conformsStepSpec dflt init txs (fun _ => Tracker.new_refines)
    fun x hx => SellPos_of_valid (hv x hx)).1

/-- **C01 (indexed form).** -/
theorem C01_row (dflt : Aff) (init : Option Status) (txs : List Tx) (hv : ∀ tx ∈ txs, tx.Valid)
    (i : Nat) (hi : i < (deltaList dflt init txs).1.length) :
    let ds := (deltaList dflt init txs).1
    let bsi := after (Books.init dflt init) ((ds.take i).map (·.tx))
    bookOf ds[i].pre = bsi ds[i].tx.aff ∧
    bookOf ds[i].post = stepBook (bsi ds[i].tx.aff) ds[i].tx.act ∧
    ds[i].gain = (gain0 (bsi ds[i].tx.aff) ds[i].tx.act).map (fun g => g - sflLoss ds[i].sfl) :=
  Conforms_index (C01_refines_spec dflt init txs hv) i hi

/-- **C01 (registered affiliates carry shares only).**  Every delta of a registered affiliate
    shows no cost base (before or after) and no capital gain. -/
theorem C01_registered (dflt : Aff) (init : Option Status) (txs : List Tx)
    (hv : ∀ tx ∈ txs, tx.Valid) (hd : dflt.registered = false) :
    ∀ d ∈ (deltaList dflt init txs).1, d.tx.aff.registered = true →
      d.pre.acb = none ∧ d.post.acb = none ∧ d.gain = none := by
  intro d hdm hreg
  have h0 : ∀ a, a.registered = true → (Books.init dflt init a).acb = none := by
    intro a ha
    have : a ≠ dflt := fun e => by simp [e, hd] at ha
    cases init <;> simp [Books.init, Book.zero, ha, this]
  obtain ⟨bs, hJ, h1, h2, h3⟩ := ListP_mem_inv
    (J := fun bs => ∀ a, a.registered = true → (bs a).acb = none) (fun _ tx h => Spec.regNone_step h tx) h0
    (Conforms_iff_listP.mp (C01_refines_spec dflt init txs hv)) d hdm
  have hn := hJ _ hreg
  refine ⟨?_, ?_, ?_⟩
  · have := congrArg Book.acb h1; rwa [hn] at this
  · have := congrArg Book.acb h2
    rwa [← stepBooks_self, Spec.regNone_step hJ d.tx _ hreg] at this
  · rw [h3]; unfold gain0; split <;> simp only [hn, Option.map_none]

/-- Book of one affiliate after a run of rows: only that affiliate's rows matter. -/
def Spec.afterOne (a : Aff) (b : Book) (rows : List Tx) : Book :=
  (rows.filter (fun r => r.aff = a)).foldl (fun b r => stepBook b r.act) b

/-- **C01 (affiliates are tracked separately).**  The book of affiliate `a` after any rows is
    obtained from `a`'s opening book and `a`'s own rows alone. -/
theorem C01_affiliates_independent (bs : Books) (rows : List Tx) (a : Aff) :
    after bs rows a = Spec.afterOne a (bs a) rows := by
  induction rows generalizing bs with
  | nil => simp [after_nil, Spec.afterOne]
  | cons r rs ih =>
    rw [after_cons, ih]
    unfold Spec.afterOne
    by_cases h : r.aff = a
    · subst h; simp [stepBooks_self]
    · simp [h, stepBooks_of_ne bs (Ne.symm h)]

end Acb

namespace Acb
/-! Non-vacuity: a concrete two-affiliate history with a USD purchase, a commission in a third
    currency, a partial sale at a gain and a return of capital is accepted by the model (so the
    theorems above speak about non-empty delta lists) and yields the hand-computed figures. -/
private def exDflt : Aff := { key := 0, registered := false }
private def exSpouseR : Aff := { key := 1, registered := true }
private def exTxs : List Tx := [
  { trade := 1, settle := 3, idx := 0, aff := exDflt, act := .buy 10 20 5 (13/10) (some 2) },
  { trade := 4, settle := 6, idx := 1, aff := exSpouseR, act := .buy 7 21 0 1 none },
  { trade := 50, settle := 52, idx := 2, aff := exDflt, act := .sell 4 30 1 1 none none },
  { trade := 60, settle := 62, idx := 3, aff := exDflt, act := .roc (1/2) 1 },
  { trade := 70, settle := 72, idx := 4, aff := exDflt, act := .split 2 1 false } ]

example : (∀ tx ∈ exTxs, tx.Valid) :=
  forall_valid_of_validB (by decide +kernel)
example : (deltaList exDflt none exTxs).2 = none := by decide +kernel
example : (deltaList exDflt none exTxs).1.map (fun d => (d.post.shares, d.post.all, d.post.acb, d.gain)) =
    [(10, 10, some 270, none), (7, 17, none, none), (6, 13, some 162, some 11),
     (6, 13, some 159, none), (12, 19, some 159, none)] := by decide +kernel

end Acb
