/-
  C13 — The exchange-rate cache never changes an answer.

  `runHistory` (AcbModel/Fx/Loader.lean) runs a history of program runs —
  each with its own clock, force flag, remote data, cache I/O failures and sequence of look-ups —
  over ONE persistent cache `year → rows` (the `RatesCache` trait; the in-memory cache is this
  store, the CSV cache is this store by `C14_cachefile_roundtrip`).  The model is that of the
  repaired loader (repo commit "fix: re-validate the rate cache …", finding F-13): a year loaded
  from the cache that lacks the requested date is validated again.
-/
import AcbModel.Lemmas.FxHist
import AcbModel.Lemmas.FxExamples
namespace Acb
open Fx

/-- Transparency inside a run: in any state a run can reach (`RunInv`: whatever was
    downloaded is what the remote has, whatever was taken from the cache is in the cache, the cache
    is trustworthy or never read), a look-up returns exactly what the uncached look-up returns —
    whatever was looked up before, in whatever order. -/
theorem C13_lookup_equals_uncached (e : Env) (hc : e.cal.OK) (hwf : RemoteWF e) (s : St)
    (hinv : RunInv e s) (d : Int) :
    forget (getEffective e s d).1 = uncached e d ∧ RunInv e (getEffective e s d).2 := by
  obtain ⟨h1, h2⟩ := getEffective_spec e hc hwf s hinv d
  exact ⟨h2.trans (uncached_eq_spec e hc hwf d).symm, h1⟩

/-- Transparency over histories: over any sequence of runs on successive days
    (`GoodHistory`: each run's data well-formed; a later run's data agree with an earlier run's on
    every day before the earlier run's date and keep what was published), with any force flags,
    any cache I/O failures and any order of look-ups, starting from any trustworthy cache, each
    look-up returns exactly what the same look-up against that run's data with no cache returns. -/
theorem C13_transparent (cache : Store) (rs : List Run) (hg : GoodHistory none rs)
    (h0 : ∀ r, rs.head? = some r → CacheOK r.env cache) :
    (runHistory cache rs).1.map (fun o => o.1.map forget) =
      rs.map (fun r => r.lookups.map (uncached r.env)) := by
  rw [runHistory_spec cache rs none hg h0]
  refine List.map_congr_left fun r hr => List.map_congr_left fun d _ => ?_
  exact (uncached_eq_spec r.env (hg.mem hr).1 (hg.mem hr).2 d).symm

/-- Non-vacuity: a two-run history (Jan 7 and Jan 21, 2020; a rate for Jan 8 appears in between)
    satisfies the hypotheses.  The second run looks up Jan 3 (answered from the cache written by
    the first run, nothing downloaded), then Jan 8, which is newer than the cache: the year is
    validated again and downloaded once, and Jan 8 / Jan 9 get the rate of Jan 8. -/
example : GoodHistory none exHistory := exHistory_good
example : (runHistory (fun _ => none) exHistory).1 =
    [([.ok ⟨2458852, 131/100⟩], [2020]),
     ([.ok ⟨2458852, 131/100⟩, .ok ⟨2458857, 141/100⟩, .ok ⟨2458857, 141/100⟩], [2020])] := by
  decide +kernel

/-- F-13, the defect that was repaired: the loader as it was (a year already loaded in this
    run is never validated again) violates transparency on that very history: after the look-up of
    Jan 3 from the cache, Jan 8 is answered with the rate of Jan 6 although the uncached look-up
    returns the rate published for Jan 8. -/
theorem C13_unrepaired_loader_was_stale :
    let cacheAfterRun1 := (runLookups exEnvA (St.init fun _ => none) [2458852]).2.cache
    let s1 := (getEffectiveOld exEnvB (St.init cacheAfterRun1) 2458852).2
    forget (getEffectiveOld exEnvB s1 2458857).1 = .ok ⟨2458855, 7/5⟩ ∧
    uncached exEnvB 2458857 = .ok ⟨2458857, 141/100⟩ := by
  decide +kernel

theorem C13_transparent_from_empty_cache (rs : List Run) (hg : GoodHistory none rs) :
    (runHistory (fun _ => none) rs).1.map (fun o => o.1.map forget) =
      rs.map (fun r => r.lookups.map (uncached r.env)) :=
  C13_transparent _ rs hg fun r _ => cacheOK_empty r.env

/-- What a run leaves behind is trustworthy, the invariant carried from run to run:
    every cached row is either the published rate of its day or a zero placeholder for a past day
    on which nothing was published. -/
theorem C13_cache_stays_trustworthy (e : Env) (hc : e.cal.OK) (hwf : RemoteWF e) (cache : Store)
    (h0 : CacheOK e cache) (ds : List Int) (e' : Env) (hcons : Consistent e e') :
    CacheOK e' (runLookups e (St.init cache) ds).2.cache :=
  cacheOK_of_consistent hcons (cacheOK_after_run e hc hwf (St.init cache) h0 ds)

theorem C13_download_once_per_run (e : Env) (hc : e.cal.OK) (hwf : RemoteWF e) (cache : Store)
    (h0 : e.force = true ∨ CacheOK e cache) (ds : List Int) :
    (runLookups e (St.init cache) ds).2.downloads.Nodup :=
  (runLookups_spec e hc hwf _ (inv_init e cache h0) ds).1.nodup

/-- For the one year a look-up of exactly `d` consults: unless a download is forced, neither the
    download log nor the cache changes. -/
theorem C13_no_download_when_covered (e : Env) (s : St) (d : Int) (hf : e.force = false)
    (hcov : Covered e s.cache d) :
    (getExact e s d).2.downloads = s.downloads ∧ (getExact e s d).2.cache = s.cache :=
  (getExact_effect e s d).resolve_right fun h => h.1.elim (by simp [hf]) (· hcov)

/-- The same for a whole effective look-up: the trade date and the seven days before it are all the
    look-back can consult. -/
theorem C13_no_download_when_window_covered (e : Env) (s : St) (d : Int) (hf : e.force = false)
    (hcov : ∀ k : Nat, k ≤ 7 → Covered e s.cache (d - k)) :
    (getEffective e s d).2.downloads = s.downloads ∧ (getEffective e s d).2.cache = s.cache := by
  refine getEffective_ind e (fun s' => s'.downloads = s.downloads ∧ s'.cache = s.cache) d
    (fun s' k hk h => ?_) s ⟨rfl, rfl⟩
  obtain ⟨h1, h2⟩ := C13_no_download_when_covered e s' (d - k) hf (h.2 ▸ hcov k hk)
  exact ⟨h1.trans h.1, h2.trans h.2⟩

theorem C13_downloads_only_needed_years (e : Env) (hc : e.cal.OK) (hwf : RemoteWF e) (s : St)
    (hinv : RunInv e s) (d : Int) (y : Int) (hy : y ∈ (getEffective e s d).2.downloads) :
    y ∈ s.downloads ∨ ∃ k : Nat, k ≤ 7 ∧ y = e.cal.yearOf (d - k) := by
  refine getEffective_ind e
    (fun s' => ∀ y ∈ s'.downloads, y ∈ s.downloads ∨ ∃ k : Nat, k ≤ 7 ∧ y = e.cal.yearOf (d - k)) d
    (fun s' k hk h y hy => ?_) s (fun y => .inl) y hy
  rcases getExact_effect e s' (d - k) with ⟨h1, _⟩ | ⟨_, l, _, h1, _⟩
  · exact h y (h1 ▸ hy)
  · rw [h1, List.mem_append, List.mem_singleton] at hy
    exact hy.elim (h y) fun hy => .inr ⟨k, hk, hy⟩

end Acb
