/-
  C10, simple mode, every outcome of the range selection: the summary of the summarisable part, then
  the unsummarisable rows carried over with their computed superficial losses written out, then the
  later rows reproduce the later deltas of the full run exactly and the carried rows figure by figure.
-/
import AcbModel.Lemmas.SummaryCut
import AcbModel.Lemmas.ValidCheck
namespace Acb

/-- C10 (simple mode; full for the model of the ledger and of `make_summary_txs`).
    `pre ++ later` is a history of valid rows of one security in settlement order, `pre` settling on
    or before the summary date `latest`, `later` after it, and the full run is error-free.  Whatever
    the range selection returns — everything summarisable, a part of it, or nothing — the rows
    `makeSummaryTxs` generates (summary purchases / cost-base rows for the summarisable part, then
    the unsummarisable transactions, each sale with its computed superficial loss declared and the
    generated adjustments as explicit rows), followed by `later` and replayed from nothing, yield

    * no failure,
    * for the carried rows (`dC`): the same balances, cost bases, capital gains and superficial-loss
      amounts as the full run (`DeltasCarry`), and
    * for the rows of `later`: **exactly** the deltas of the full run. -/
theorem C10_summary_reproduces_history (yearOf jan1 : Int → Int) (dflt : Aff) (hdflt : dflt.registered = false)
    (pre later : List Tx) (latest : Int)
    (hv : ∀ x ∈ pre ++ later, x.Valid)
    (hsorted : (pre ++ later).Pairwise (fun a b => a.settle ≤ b.settle))
    (hpre : ∀ x ∈ pre, x.settle ≤ latest) (hlater : ∀ x ∈ later, latest < x.settle)
    (hne : pre ≠ [])
    (hok : (deltaList dflt none (pre ++ later)).2 = none)
    (r : SummaryRange)
    (hr : summaryRange latest (deltaList dflt none (pre ++ later)).1 = some r) :
    ∃ dS dC, deltaList dflt none
        (makeSummaryTxs yearOf jan1 latest false (deltaList dflt none (pre ++ later)).1 ++ later) =
          (dS ++ dC ++ (deltaList dflt none (pre ++ later)).1.drop (r.lastInRange + 1), none) ∧
      DeltasCarry (((deltaList dflt none (pre ++ later)).1.take (r.lastInRange + 1)).drop
        (cutOf r.lastSummarizable)) dC := by
  obtain ⟨dS, dC, hd, _, hdc⟩ :=
    summary_replay yearOf jan1 pre later latest hv hsorted hpre hlater hne hok r hr
  exact ⟨dS, dC, hd, hdc⟩

/-! Non-vacuity, with rows carried over.  Days 0 and 5: the two affiliates buy.  Day 80: the first
    sells 10 at a loss; day 85: the second buys 20 — the loss is superficial and the second
    affiliate's cost base is adjusted.  Summary date = day 90.  Later: day 100 a loss sale (its window
    reaches back to day 70, so the rows of days 80 and 85 cannot be summarised; the sale of day 80 in
    turn keeps day 50 onwards), day 110 a purchase, day 200 a sale at a gain.  The range selection
    returns "delta 4 is the last in range, delta 1 the last summarisable"; three deltas are
    carried over (the sale with its superficial loss declared, the adjustment, the purchase). -/
private def z0 : Aff := ⟨0, false⟩
private def z1 : Aff := ⟨1, false⟩
private def preZ : List Tx := [
  { trade := 0, settle := 0, idx := 0, aff := z0, act := .buy 100 10 0 1 none },
  { trade := 5, settle := 5, idx := 1, aff := z1, act := .buy 50 12 0 1 none },
  { trade := 80, settle := 80, idx := 2, aff := z0, act := .sell 10 8 0 1 none none },
  { trade := 85, settle := 85, idx := 3, aff := z1, act := .buy 20 8 0 1 none } ]
private def laterZ : List Tx := [
  { trade := 100, settle := 100, idx := 4, aff := z0, act := .sell 40 8 0 1 none none },
  { trade := 110, settle := 110, idx := 5, aff := z1, act := .buy 20 8 0 1 none },
  { trade := 200, settle := 200, idx := 6, aff := z0, act := .sell 10 15 0 1 none none } ]

example : ∃ dS dC, deltaList z0 none
      (makeSummaryTxs id id 90 false (deltaList z0 none (preZ ++ laterZ)).1 ++ laterZ) =
        (dS ++ dC ++ (deltaList z0 none (preZ ++ laterZ)).1.drop (4 + 1), none) ∧
    DeltasCarry (((deltaList z0 none (preZ ++ laterZ)).1.take (4 + 1)).drop (1 + 1)) dC := by
  apply C10_summary_reproduces_history id id z0 rfl preZ laterZ 90 _ _ _ _ _ _
    { lastInRange := 4, lastSummarizable := some 1 }
  · decide +kernel
  · exact forall_valid_of_validB (by decide +kernel)
  · decide
  · decide
  · decide
  · simp [preZ]
  · decide +kernel

/-- the generated rows of that example: two summary purchases (days 0 and 5), then the carried sale
    (with its superficial loss of −20 declared), the carried adjustment and the carried purchase -/
example : (makeSummaryTxs id id 90 false (deltaList z0 none (preZ ++ laterZ)).1).map
      (fun t => (t.settle, t.aff.key, match t.act with | .sell _ _ _ _ _ (some (v, _)) => some v | _ => none)) =
    [(0, 0, none), (5, 1, none), (80, 0, some (-20)), (80, 1, none), (85, 1, none)] := by decide +kernel

end Acb
