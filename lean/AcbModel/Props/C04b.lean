/-
  C04, continued — "rejected exactly when …": for a well-formed tracker and a parsed row, the ledger
  rejects the row exactly under the conditions C04 lists (evaluated on the affiliate's status before
  the row), and never otherwise.
-/
import AcbModel.Props.C04
namespace Acb
open Spec

/-- The reasons for which one row is rejected, in terms of the status `pre` of the row's
    affiliate before the row (shares held, all-affiliate balance, cost base):
    * Sell: more shares than the affiliate (or all affiliates together) hold; a declared superficial
      loss on a sale with no loss (a sale at a gain, or any sale of a registered affiliate, which
      has no capital gain or loss at all); or, for a sale at a loss, a failure of the superficial-loss
      computation (look-ahead finds a later over-sale, or the declared loss contradicts the computed
      one — see `C04_sfl_error_iff`);
    * RoC: registered affiliate, or larger than the cost base;
    * SfLA: registered affiliate;
    * Split: whole-number reverse split leaving a fraction (or a negative all-affiliate balance,
      impossible for a well-formed tracker);
    * Buy: never. -/
def RowOffence (t : Tracker) (tx : Tx) (past future : List Tx) : Prop :=
  let pre := t.nextPre tx.aff
  match tx.act with
  | .buy .. => False
  | .sell sh px comm rate crate spec =>
    pre.shares - sh < 0 ∨ pre.all - sh < 0 ∨
    (perShareAcb pre = none ∧ spec.isSome = true) ∨
    (∃ aps, perShareAcb pre = some aps ∧
      ((px * sh * rate - comm * commRate rate crate - aps * sh < 0 ∧
          ∃ f, deltaSflInfo t tx sh spec (px * sh * rate - comm * commRate rate crate - aps * sh) past future = .error f) ∨
       (¬ (px * sh * rate - comm * commRate rate crate - aps * sh < 0) ∧ spec.isSome = true)))
  | .roc ps rate => tx.aff.registered = true ∨ (∃ old, pre.acb = some old ∧ old - ps * pre.shares * rate < 0)
  | .sfla .. => tx.aff.registered = true
  | .split post pre' io =>
    pre.all + (pre.shares * splitFactor post pre' - pre.shares) < 0 ∨
    (pre' > post ∧ io = true ∧ ¬ isInteger (pre.shares * splitFactor post pre') = true)

/-- **C04 (a row is rejected exactly for the listed reasons).** -/
theorem C04_row_rejected_iff {U : List Aff} {t : Tracker} (hw : TrackerWFOn U t) {tx : Tx} (hv : tx.Valid)
    (past future : List Tx) :
    (∃ f, stepRow t tx past future = .error f) ↔ RowOffence t tx past future := by
  simp only [stepRow_error_iff_arm hw hv]
  unfold RowOffence
  have hreg := (hw.nextPre_ok tx.aff).reg
  cases hact : tx.act with
  | buy sh px comm rate crate => simp [arm_buy hact]
  | sell sh px comm rate crate spec =>
    simp only [arm_sell hact]
    by_cases h1 : (t.nextPre tx.aff).shares - sh < 0
    · exact ⟨fun _ => .inl h1, fun _ => ⟨_, armSell_oversell h1⟩⟩
    by_cases h2 : (t.nextPre tx.aff).all - sh < 0
    · exact ⟨fun _ => .inr (.inl h2), fun _ => ⟨_, armSell_oversellAll h1 h2⟩⟩
    simp only [h1, h2, false_or]
    cases hp : perShareAcb (t.nextPre tx.aff) with
    | none =>
      simp only [armSell_registered h1 h2 hp, reduceCtorEq, false_and, exists_false, or_false, true_and]
      cases hs : spec.isSome <;> simp
    | some aps =>
      simp only [reduceCtorEq, false_and, false_or, Option.some.injEq, exists_eq_left']
      by_cases hg : px * sh * rate - comm * commRate rate crate - aps * sh < 0
      · simp only [armSell_loss h1 h2 hp hg, hg, true_and, not_true_eq_false, false_and, or_false,
          Except.map_eq_error_iff]
      · simp only [armSell_gain h1 h2 hp hg, hg, false_and, false_or, not_false_eq_true, true_and]
        cases hs : spec.isSome <;> simp
  | roc ps rate =>
    simp [arm_roc hact, armRoc_error_iff hreg, exists_or]
  | sfla sh ps =>
    simp [arm_sfla hact, armSfla_error_iff hreg]
  | split post pre' io =>
    simp only [arm_split hact, armSplit_error_iff, exists_or, exists_and_left, exists_eq, and_true]
    by_cases h1 : (t.nextPre tx.aff).all +
      ((t.nextPre tx.aff).shares * splitFactor post pre' - (t.nextPre tx.aff).shares) < 0 <;> simp [h1]

end Acb

namespace Acb

/-- **C04 (when the superficial-loss computation rejects a loss sale).**  Exactly when the
    look-ahead scan finds a negative balance in the 30 days after the sale (`sflRatio` fails), or
    the user declared a superficial loss, did not force it, and it differs from the computed one
    (0 when the scan finds none) by more than the allowance. -/
theorem C04_sfl_error_iff {t : Tracker} {tx : Tx} {sold loss : Rat} {spec : Option (Rat × Bool)}
    {past future : List Tx} :
    (∃ f, deltaSflInfo t tx sold spec loss past future = .error f) ↔
      (match sflRatio t tx.aff tx.settle sold past future with
       | .error _ => True
       | .ok msfl => ∃ v, spec = some (v, false) ∧
          rabs ((match msfl with | none => 0 | some r => effCent (loss * (r.num / r.den))) - v) > sflMaxDiff) := by
  rw [deltaSflInfo_eq]
  cases sflRatio t tx.aff tx.settle sold past future with
  | error f => simp [Except.bind]
  | ok msfl =>
    have e : (match msfl with | none => 0 | some r => effCent (loss * (r.num / r.den))) =
        calcSflOf loss msfl := by cases msfl <;> rfl
    simp only [Except.bind, e, dsiOf_error_iff, exists_eq_left]

end Acb
