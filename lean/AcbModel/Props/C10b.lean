/-
  C10, the later rows, simple mode, for a summary point at which everything is summarisable: if the
  30-day window of every later sale starts after every summarised row and every summary row, the
  summary followed by the later rows reports exactly the deltas and failure of the full history.
-/
import AcbModel.Lemmas.SummaryCut
import AcbModel.Lemmas.ValidCheck
namespace Acb

/-- C10 (later rows, simple mode — partial: the summary point is fully summarisable).
    Let `pre ++ later` be a history of valid rows over the affiliates `As`, and suppose the ledger
    gets through `pre` (otherwise there is nothing to summarise), ending in the tracker `tP`.
    Let `S` be the simple-mode summary of that state — per affiliate, in any order, a purchase of
    its shares at its average cost (or an adjustment row for a cost base held with no shares),
    dated `day a`.  If the 30-day window of every later sale starts after every row of `pre` and
    after every summary row, then `S ++ later`, replayed from nothing, yields the summary rows'
    own deltas followed by **exactly** the deltas the full history yields for `later`, and the same
    failure or none. -/
theorem C10_later_rows_partial (dflt : Aff) (init : Option Status) (hi : InitOk dflt init)
    (pre later : List Tx) (As : List Aff) (hn : As.Nodup) (hd : init ≠ none → dflt ∈ As)
    (hpre : ∀ x ∈ pre, x.Valid ∧ x.aff ∈ As) (hlater : ∀ x ∈ later, x.Valid ∧ x.aff ∈ As)
    (day : Aff → Int)
    (hfarP : ∀ x ∈ later, ∀ sh px comm rate crate spec, x.act = .sell sh px comm rate crate spec →
      ∀ p ∈ pre, p.settle < x.settle - Gen.sflWindowBeforeDays)
    (hfarS : ∀ x ∈ later, ∀ sh px comm rate crate spec, x.act = .sell sh px comm rate crate spec →
      ∀ a ∈ As, day a < x.settle - Gen.sflWindowBeforeDays) :
    ∃ t0, Tracker.new dflt init = .ok t0 ∧
      match loopPrefix t0 [] [] pre later with
      | .inr _ => True
      | .inl (tP, _, accP) =>
        ∃ dS out f,
          deltaList dflt init (pre ++ later) = (accP ++ out, f) ∧
          deltaList dflt none (summaryOfTracker tP day As ++ later) = (dS ++ out, f) ∧
          dS.length = (summaryOfTracker tP day As).length := by
  obtain ⟨t0, ht0, hw0⟩ := Tracker.new_wfOn hi hn hd
  refine ⟨t0, ht0, ?_⟩
  obtain ⟨A, ⟨tP, pastP⟩ | f, hr, he⟩ := loopPrefix_runs pre later t0 [] [] <;> rw [he]
  · obtain ⟨tS, dS, hS, hobs, hlen⟩ := summary_at dflt hw0 hpre hlater hr day later
    obtain ⟨ext, e3, h3⟩ := Runs.exists [] tP pastP later
    obtain ⟨e', h3', he'⟩ := h3.far (P := pastP) (P' := (summaryOfTracker tP day As).reverse) (X := [])
      (fun x hx => ⟨.of_sell fun _ _ _ _ _ _ hact => hr.farFor_past (hfarP x hx _ _ _ _ _ _ hact),
        .of_sell fun _ _ _ _ _ _ hact => farFor_summaryOfTracker (hfarS x hx _ _ _ _ _ _ hact)⟩) hobs (.refl [])
    exact ⟨dS, ext, e3.failure, deltaList_of_runs ht0 hr h3,
      by rw [deltaList_of_runs (Tracker.new_none dflt) hS h3', he'], hlen⟩
  · trivial

/-- C10 (later rows, simple mode — partial, loss sales only).  As `C10_later_rows_partial`, but
    the window condition is only asked of the later rows that the full, error-free run flags as a
    loss or superficial loss (`Delta.isLossOrSfl` — the very test `get_summary_range_delta_indicies`
    applies; a sale at a gain never looks at its window): if for each of those the 30-day window
    starts after every row of `pre` and after every summary row, then `S ++ later` replayed from
    nothing yields the summary rows' deltas followed by exactly the later deltas of the full run,
    without failure. -/
theorem C10_later_rows_loss_only_partial (dflt : Aff) (init : Option Status) (hi : InitOk dflt init)
    (pre later : List Tx) (As : List Aff) (hn : As.Nodup) (hd : init ≠ none → dflt ∈ As)
    (hpre : ∀ x ∈ pre, x.Valid ∧ x.aff ∈ As) (hlater : ∀ x ∈ later, x.Valid ∧ x.aff ∈ As)
    (day : Aff → Int) :
    ∃ t0, Tracker.new dflt init = .ok t0 ∧
      match loopPrefix t0 [] [] pre later with
      | .inr _ => True
      | .inl (tP, _, accP) =>
        (deltaList dflt init (pre ++ later)).2 = none →
        (∀ d ∈ (deltaList dflt init (pre ++ later)).1.drop accP.length, d.isLossOrSfl = true →
          (∀ p ∈ pre, p.settle < d.tx.settle - Gen.sflWindowBeforeDays) ∧
          (∀ a ∈ As, day a < d.tx.settle - Gen.sflWindowBeforeDays)) →
        ∃ dS, deltaList dflt none (summaryOfTracker tP day As ++ later) =
            (dS ++ (deltaList dflt init (pre ++ later)).1.drop accP.length, none) ∧
          dS.length = (summaryOfTracker tP day As).length := by
  obtain ⟨t0, ht0, hw0⟩ := Tracker.new_wfOn hi hn hd
  refine ⟨t0, ht0, ?_⟩
  obtain ⟨A, ⟨tP, pastP⟩ | f, hr, he⟩ := loopPrefix_runs pre later t0 [] [] <;> rw [he]
  · obtain ⟨ext, e3, h3⟩ := Runs.exists [] tP pastP later
    have hfull : deltaList dflt init (pre ++ later) = ([] ++ A ++ ext, e3.failure) := deltaList_of_runs ht0 hr h3
    simp only [hfull, List.drop_left]
    intro hok hfar
    obtain ⟨tS, dS, hS, hobs, hlen⟩ := summary_at dflt hw0 hpre hlater hr day later
    obtain ⟨e', h3', he'⟩ := h3.flaggedFar (X := []) hok
      (fun d hd hfl => ⟨hr.farFor_past (hfar d hd hfl).1, farFor_summaryOfTracker (hfar d hd hfl).2⟩) hobs (.refl [])
    exact ⟨dS, by rw [deltaList_of_runs (Tracker.new_none dflt) hS h3', he'], hlen⟩
  · trivial

/-- What the range selection of the summary checks (`firstConflict`, step 2 of
    `get_summary_range_delta_indicies`): when it reports no conflict for the deltas after the
    summary point, settling in non-decreasing order, then every later delta flagged as a loss or
    superficial loss has its window start after `lastDate` — the hypothesis of the theorem above
    for the rows before the summary point. -/
theorem C10_no_conflict_is_far (lastDate : Int) :
    ∀ (dl : List Delta), dl.Pairwise (fun a b => a.tx.settle ≤ b.tx.settle) → firstConflict lastDate dl = none →
      ∀ d ∈ dl, d.isLossOrSfl = true → lastDate < d.tx.settle - Gen.sflWindowBeforeDays :=
  fun _ => firstConflict_none

/-- The rows `make_simple_summary_txs` emits for an affiliate (model `simpleSummary`) are the rows
    `summaryOfTracker` uses: they depend only on the affiliate's last status and are dated at its
    last summarised row. -/
theorem C10_summary_rows_shape (af : Aff) (d : Delta) :
    simpleSummary af d = summaryRowsOf d.tx.settle af d.post.shares d.post.acb :=
  simpleSummary_shape af d

/-! Non-vacuity: `pre` = Default buys 100 @10 (day 0), Spouse buys 50 @12 (day 5);
    `later` = Default sells 40 @8 on day 100 (a loss), Spouse buys 20 @8 on day 110 (inside the
    window: the loss is half superficial), Default sells 10 @15 on day 200.  Summary rows dated days
    0 and 5.  All hypotheses hold, the prefix succeeds, and both runs end with the same three later
    deltas (and the generated adjustment). -/
private def c0 : Aff := ⟨0, false⟩
private def c1 : Aff := ⟨1, false⟩
private def preX : List Tx := [
  { trade := 0, settle := 0, idx := 0, aff := c0, act := .buy 100 10 0 1 none },
  { trade := 5, settle := 5, idx := 1, aff := c1, act := .buy 50 12 0 1 none } ]
private def laterX : List Tx := [
  { trade := 100, settle := 100, idx := 2, aff := c0, act := .sell 40 8 0 1 none none },
  { trade := 110, settle := 110, idx := 3, aff := c1, act := .buy 20 8 0 1 none },
  { trade := 200, settle := 200, idx := 4, aff := c0, act := .sell 10 15 0 1 none none } ]
private def dayX : Aff → Int := fun a => if a = c0 then 0 else 5

example : ∃ t0, Tracker.new c0 none = .ok t0 ∧
    match loopPrefix t0 [] [] preX laterX with
    | .inr _ => True
    | .inl (tP, _, accP) =>
      ∃ dS out f, deltaList c0 none (preX ++ laterX) = (accP ++ out, f) ∧
        deltaList c0 none (summaryOfTracker tP dayX [c0, c1] ++ laterX) = (dS ++ out, f) ∧
        dS.length = (summaryOfTracker tP dayX [c0, c1]).length := by
  apply C10_later_rows_partial c0 none ⟨rfl, by simp⟩ preX laterX [c0, c1] (by decide) (by simp)
  · exact fun x hx => ⟨forall_valid_of_validB (f := id) (by decide +kernel) x hx,
      (by decide : ∀ r ∈ preX, r.aff ∈ [c0, c1]) x hx⟩
  · exact fun x hx => ⟨forall_valid_of_validB (f := id) (by decide +kernel) x hx,
      (by decide : ∀ r ∈ laterX, r.aff ∈ [c0, c1]) x hx⟩
  · exact fun x hx _ _ _ _ _ _ _ =>
      (by decide : ∀ x ∈ laterX, ∀ p ∈ preX, p.settle < x.settle - Gen.sflWindowBeforeDays) x hx
  · exact fun x hx _ _ _ _ _ _ _ =>
      (by decide : ∀ x ∈ laterX, ∀ a ∈ [c0, c1], dayX a < x.settle - Gen.sflWindowBeforeDays) x hx

/-- in that example the later rows indeed carry a superficial loss: −40 of the −80 loss is denied
    (20 of the 40 shares were bought back by the spouse), in the full run and in the replay -/
example : (deltaList c0 none (preX ++ laterX)).1.filterMap (fun d => d.sfl.map (·.loss)) = [-40] := by decide +kernel

end Acb
