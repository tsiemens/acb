/-
  C09 — the `WF` hypothesis of `C09_deterministic` stated as a condition on the ledger function
  (per security), and discharged for the ledger model.
-/
import AcbModel.Props.C09
import AcbModel.Lemmas.WfLoop
import AcbModel.Lemmas.CostRows
namespace Acb
open Acb.Costs Acb.Gains Acb.Splits Acb.Orders

/-- C09 (the whole report, for any ledger that keeps the report's precondition).  If the keys of
    the securities map are distinct (it is a map) and the ledger function hands the cost report,
    for each security, rows of that security with non-negative cost bases, a pre cost base wherever
    there is a post cost base, in date order (`SecRowsOk`), then the output is the same for all
    hash orders — no assumption on the concatenated list is left. -/
theorem C09_deterministic_ledger (o o' : Orders) (ho : o.Ok) (ho' : o'.Ok) (yearOf : Int → Int) (dflt : Nat)
    (ledger : Nat → List STx → SecOut) (full totalCosts : Bool) (inp : Inputs)
    (hkeys : (inp.map (·.1)).Nodup)
    (hl : ∀ s txs, SecRowsOk s ((ledger s txs).rows.map (·.cost))) :
    appOutput o yearOf dflt ledger full totalCosts inp = appOutput o' yearOf dflt ledger full totalCosts inp := by
  refine C09_deterministic o o' ho ho' yearOf dflt ledger full totalCosts inp ?_
  unfold allCostRows
  refine WF_flatMap id _ (printOrder o inp) ?_ ?_
  · have hn : (printOrder o inp).Nodup := by
      unfold printOrder
      exact ((sortNats_perm _).trans (ho.secs _)).nodup_iff.mpr hkeys
    exact hn.imp (fun h => h)
  · intro s _
    unfold resultOf
    split
    · exact hl s _
    · exact .nil s

/-- The ledger model keeps the report's precondition — for every opening position and every
    date-sorted list of valid rows, whether or not the ledger fails part-way. -/
theorem C09_ledger_model_rows_ok (isDefault : Aff → Bool) (dflt : Aff) (s : Nat) (init : Option Status)
    (txs : List Tx) (hv : ∀ tx ∈ txs, tx.Valid) (hi : InitOk dflt init)
    (hs : txs.Pairwise (fun a b => a.settle ≤ b.settle)) :
    SecRowsOk s ((deltaList dflt init txs).1.map (rowOfDelta isDefault s)) := by
  have hok : ∀ r ∈ (deltaList dflt init txs).1.map (rowOfDelta isDefault s), ∃ d,
      r = rowOfDelta isDefault s d ∧ StatusOk d.tx.aff d.pre ∧ StatusOk d.tx.aff d.post := by
    intro r hr
    obtain ⟨d, hd, rfl⟩ := List.mem_map.mp hr
    obtain ⟨bs', h⟩ := ListP_mem (deltaList_wf dflt init txs hv hi).1 d hd
    exact ⟨d, rfl, h.pre, h.post⟩
  refine { sec := fun r hr => ?_, nonneg := fun r hr p hp => ?_, pre := fun r hr hp => ?_, sorted := ?_ }
  · obtain ⟨d, rfl, _⟩ := hok r hr
    rfl
  · obtain ⟨d, rfl, h1, h2⟩ := hok r hr
    exact hp.elim (h2.acb p) (h1.acb p)
  · obtain ⟨d, rfl, h1, h2⟩ := hok r hr
    -- pre and post cost base are both absent exactly for a registered affiliate
    have e : d.post.acb.isNone = d.pre.acb.isNone := h2.reg.trans h1.reg.symm
    rw [← Option.not_isNone] at hp ⊢
    exact e ▸ hp
  · rw [List.pairwise_map]
    exact (deltaList_sorted dflt init txs hs).imp (fun h => h)

example : SecRowsOk 3 [{ sec := 3, day := 1, pre := some 0, post := some 5, dflt := true },
                       { sec := 3, day := 1, pre := none, post := none, dflt := false },
                       { sec := 3, day := 4, pre := some 5, post := some 2, dflt := true }] := by
  refine ⟨by decide, ?_, by decide, by decide⟩
  suffices h : ∀ r ∈ _, (∀ p ∈ Row.post r, (0 : Rat) ≤ p) ∧ ∀ p ∈ Row.pre r, (0 : Rat) ≤ p from
    fun r hr p hp => hp.elim ((h r hr).1 p) ((h r hr).2 p)
  decide +kernel

end Acb
