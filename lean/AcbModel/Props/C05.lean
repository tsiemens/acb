/-
  C05 — Every input ends in a report or a diagnostic, never a panic.
  Modelled part: the bookkeeping core (delta_list.rs, superficial_loss.rs, portfolio_status.rs,
  util/math.rs rounding as used there).  Front-end byte handling (csv, clap, time formats, regex,
  xlsx/pdf readers) and rust_decimal overflow are NOT modelled: they are covered only by the fuzz
  family of the harness (support, not proof).
-/
import AcbModel.Props.C04
namespace Acb

/-- **C05 (core never panics).**  For every opening position `parse_initial_status` can produce
    and every list of rows `Tx::try_from` can produce, of any length, the model of
    `txs_to_delta_list` terminates (it is a total function by structural recursion) with either the
    complete ledger or a `Result::Err`; none of the `unwrap`/`assert!`/`assert_eq!` sites of the
    bookkeeping core (tracker assertions, RoC/SfLA registration assertions, the effective-cent and
    ratio `unwrap`s of the superficial-loss computation, `assert_ne!(buying_affiliates.len(), 0)`,
    `active.get(af).unwrap()`) is reachable. -/
theorem C05_core_no_panic (dflt : Aff) (init : Option Status) (txs : List Tx)
    (hv : ∀ tx ∈ txs, tx.Valid) (hi : InitOk dflt init) :
    ∀ s, (deltaList dflt init txs).2 ≠ some (.panic s) := by
  intro s h
  obtain ⟨k, hk, _⟩ := C04_only_user_errors dflt init txs hv hi _ h
  cases hk

/-- The guard of `C05_core_no_panic` is what `Tx::try_from` establishes; the input of F-05a (a loss
    whose superficial part rounds to 0.00) is processed without failure. -/
private def f05a : List Tx := [
  { trade := 0, settle := 0, idx := 0, aff := ⟨0, false⟩, act := .buy 6 (333/100) (2/100) 1 none },
  { trade := 8, settle := 8, idx := 1, aff := ⟨0, false⟩, act := .sell (1/2) (33333333333/10000000000) 0 1 none none } ]

example : (deltaList ⟨0, false⟩ none f05a).2 = none := by decide +kernel
example : ((deltaList ⟨0, false⟩ none f05a).1.map (fun d => d.sfl.isSome)) = [false, false] := by decide +kernel

end Acb
