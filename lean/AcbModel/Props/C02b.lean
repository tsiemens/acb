/-
  C02 for every sale of every run: the hypotheses of `C02_rule` hold in every state the ledger
  reaches on a date-sorted history of valid rows, so its conclusion holds at every sale.
-/
import AcbModel.Props.C02
import AcbModel.Lemmas.WfLoop
import AcbModel.Lemmas.RunDeltas
namespace Acb
open Spec

/-- C02 (every reachable sale).  `q ++ sale :: rest` is any history of valid rows of the
    affiliates `As` (duplicate-free; the default affiliate non-registered) in settlement order, and
    the ledger, started from nothing, gets through `q`.  Then at the sale, if the look-ahead does not
    run into a negative balance, the loss is declared superficial exactly when some purchase settles
    within 30 days before or after the sale and the affiliates together still hold shares at the
    end of the window — for the books `bs` the tracker holds at that moment. -/
theorem C02_every_reachable_sale (dflt : Aff) (hdflt : dflt.registered = false) (As : List Aff) (hn : As.Nodup)
    (q rest : List Tx) (sale : Tx)
    (hrows : ∀ x ∈ q ++ sale :: rest, x.Valid ∧ x.aff ∈ As)
    (hsorted : SettleAsc (q ++ sale :: rest))
    {sold px comm rate : Rat} {crate : Option Rat} {spec : Option (Rat × Bool)}
    (hact : sale.act = .sell sold px comm rate crate spec) :
    match loopPrefix { m := fun _ => none, latestAll := 0, latestAff := dflt } [] [] q (sale :: rest) with
    | .inr _ => True
    | .inl (t, past, _) =>
      ¬ (t.latestPostAll - sold < 0) → ¬ (t.bal sale.aff - sold < 0) →
      ∀ s1, scanFwd t (sale.settle + Gen.sflWindowAfterDays) (initScan t sale.aff sold) rest = .ok s1 →
      ∃ bs, TrackerRefines t bs ∧
        let held := heldAtEnd As (stepBooks bs sale) (windowAfter sale.settle rest)
        let bought := ∃ x, (x ∈ windowBefore sale.settle past ∨ x ∈ windowAfter sale.settle rest) ∧ x.act.isBuy = true
        s1.allEop = held ∧
        ((∃ i, sflInfo t sale.aff sale.settle sold past rest = .ok (some i) ∧ i.allEop = held) ↔
          (bought ∧ 0 < held)) := by
  obtain ⟨hq, hr⟩ := List.forall_mem_append.mp hrows
  obtain ⟨ds, e, hrun, he⟩ := loopPrefix_runs q (sale :: rest) { m := fun _ => none, latestAll := 0, latestAff := dflt } [] []
  rw [he]
  cases e with
  | inr f => trivial
  | inl s =>
    obtain ⟨t, past⟩ := s
    obtain ⟨⟨hw, hrf⟩, hpastIn⟩ := hrun.gen_end (wfOnStepSpec As)
      ⟨.empty hn dflt, Tracker.new_refines (Tracker.new_none dflt)⟩ hq hr (by simp)
    intro h1 h2 s1 hf
    refine ⟨_, hrf, ?_⟩
    have hsp : SettleDesc past := by
      rw [hrun.past, List.append_nil]
      exact List.pairwise_reverse.mpr (List.pairwise_map.mpr (hrun.sorted hsorted.left))
    obtain ⟨hsale, hrest⟩ := List.forall_mem_cons.mp hr
    exact C02_rule hw hrf hact hsp hsorted.right.tail
      (fun x hx' => (hpastIn x hx').1) (fun x hx' => (hrest x hx').1) ⟨hsale.2, fun x hx' => (hrest x hx').2⟩ h1 h2 hf

end Acb
