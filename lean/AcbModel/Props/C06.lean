/-
  C06 — Every total equals the sum of the rows it summarises; rounding is display-only.  The model
  (App/Gains.lean) is of `calc_security_cumulative_capital_gains`, `calc_cumulative_capital_gains`,
  `get_cumulative_capital_gains` and the footer / aggregate rendering; `gainsIn`, `allGains` are the spec side.
-/
import AcbModel.Generated.AppReports
import AcbModel.Lemmas.Gains
namespace Acb
open Acb.Gains Acb.Costs

/-- C06.  The years listed under a security's table are exactly the years in which a row with a
    capital gain settles, each once, and the figure of a year is the sum of the capital gains of the
    rows settling in that year. -/
theorem C06_year_total (yearOf : Int → Int) (rows : List GRow) :
    (secGains yearOf rows).years.Nodup ∧
    (∀ y, y ∈ (secGains yearOf rows).years ↔ gainsIn yearOf rows y ≠ []) ∧
    (∀ y, (secGains yearOf rows).byYear y =
        if gainsIn yearOf rows y = [] then none else some (gainsIn yearOf rows y).sum) := by
  have hmem : ∀ y, y ∈ (gainPairs yearOf rows).map (·.1) ↔ gainsIn yearOf rows y ≠ [] := by
    intro y
    rw [← amountsFor_gainPairs, amountsFor_ne_nil]
  rw [secGains_eq]
  refine ⟨(ofPairs_wf _ _).nodup, fun y => (ofPairs_mem_years _ _ y).trans (hmem y), fun y => ?_⟩
  rw [ofPairs_byYear, amountsFor_gainPairs]
  simp only [hmem, ne_eq, ite_not]

/-- C06.  The table total is the sum of the yearly figures listed under the table, and it is the
    sum of all capital gains of the table's rows. -/
theorem C06_table_total (yearOf : Int → Int) (rows : List GRow) :
    (secGains yearOf rows).total =
        sumOver (secGains yearOf rows).years (fun y => ((secGains yearOf rows).byYear y).getD 0) ∧
    (secGains yearOf rows).total = (allGains rows).sum := by
  refine ⟨secGains_total yearOf rows, ?_⟩
  rw [secGains_eq]
  rfl

/-- C06.  Whatever the hash orders, the aggregate table lists exactly the years listed under some
    completed security's table, and the figure of a year is the sum, over the securities that
    completed, of that year's figure (securities that errored take no part: `completed` leaves them
    out). -/
theorem C06_aggregate_year (yearOf : Int → Int) (rs : List SecResult)
    (σ : List CG → List CG) (ρ : List Int → List Int) (hσ : IsOrder σ) (hρ : IsOrder ρ) :
    let gs := completed yearOf rs
    let agg := aggGains σ ρ gs
    agg.years.Nodup ∧
    (∀ y, y ∈ agg.years ↔ ∃ g ∈ gs, y ∈ g.years) ∧
    (∀ y, agg.byYear y =
        if ∃ g ∈ gs, y ∈ g.years then some (sumOver gs (fun g => (g.byYear y).getD 0)) else none) := by
  intro gs agg
  exact ⟨(aggGains_wf σ ρ gs).nodup, aggGains_mem_years hσ hρ gs,
    aggGains_byYear hσ hρ (completed_wf yearOf rs)⟩

/-- C06.  Whatever the hash orders, "Since inception" is the sum of the yearly figures of the
    aggregate table, and it is the sum of the table totals of the securities that completed. -/
theorem C06_since_inception (yearOf : Int → Int) (rs : List SecResult)
    (σ : List CG → List CG) (ρ : List Int → List Int) (hσ : IsOrder σ) (hρ : IsOrder ρ) :
    let gs := completed yearOf rs
    let agg := aggGains σ ρ gs
    agg.total = sumOver agg.years (fun y => (agg.byYear y).getD 0) ∧
    agg.total = sumOver gs (fun g => g.total) := by
  intro gs agg
  have htot : agg.total = sumOver gs (fun g => g.total) := aggGains_total hσ ρ gs
  refine ⟨?_, htot⟩
  rw [htot]
  show _ = (aggGains σ ρ gs).sumYears
  rw [aggGains_sumYears hσ hρ]
  refine sumOver_congr (fun g hg => ?_)
  obtain ⟨r, _, _, rfl⟩ := mem_completed.mp hg
  exact secGains_total yearOf r.rows

/-- C06.  The displayed figure is within half a cent of the full figure, lies on the cent grid, a
    figure exactly half-way between two cents goes to the one farther from zero (in both
    directions), and rounding commutes with the sign (so `-$` followed by the rounded magnitude is
    the rounded value). -/
theorem C06_round_spec (x : Rat) :
    rabs (roundCent x - x) ≤ 1 / 200 ∧ (∃ n : Int, roundCent x * 100 = (n : Rat)) ∧
    roundCent (-x) = - roundCent x ∧
    (∀ k : Int, 0 ≤ k → x = ((k : Rat) + 1/2) / 100 → roundCent x = ((k : Rat) + 1) / 100) ∧
    (∀ k : Int, 0 ≤ k → x = -(((k : Rat) + 1/2) / 100) → roundCent x = -(((k : Rat) + 1) / 100)) :=
  ⟨roundCent_close x, roundCent_grid x, roundCent_neg x,
   fun k hk e => e ▸ roundCent_tie_pos k hk, fun k hk e => e ▸ roundCent_tie_neg k hk⟩

/-- C06.  With default options the footer of a security table and the aggregate table are, cell by
    cell, the full-precision tables (`--print-full-values`) with every figure rounded to cents: each
    displayed figure is the rounding of the exact figure, and no figure is computed from a rounded
    one (the sums of `C06_year_total` … `C06_since_inception` are taken on the exact figures). -/
theorem C06_display_only (g : CG) :
    footer true g = (none, g.total) :: g.sortedYears.map (fun y => (some y, (g.byYear y).getD 0)) ∧
    footer false g = (footer true g).map (fun c => (c.1, roundCent c.2)) ∧
    aggTable false g = (aggTable true g).map (fun c => (c.1, roundCent c.2)) := by
  refine ⟨?_, ?_, ?_⟩
  · simp [footer, shownSigned_full]
  · simp [footer, shownSigned_full, shownSigned_cents, List.map_map, Function.comp_def]
  · simp [aggTable, shownSigned_full, shownSigned_cents, List.map_map, Function.comp_def]

/-- C06, source facts re-read by the translator on every run.  The display rounding is
    `round_dp_with_strategy(2, MidpointAwayFromZero)` printed with `{:.2}`, and gains are attributed
    to the year of the settlement date.  A change of any of these in the source stops this theorem
    from compiling. -/
theorem C06_source_facts :
    Gen.displayDp = 2 ∧ Gen.displayRounding = "MidpointAwayFromZero" ∧ Gen.displayFormat = "{:.2}" ∧
    Gen.gainsYearField = "settlement_date" :=
  ⟨rfl, rfl, rfl, rfl⟩

end Acb

namespace Acb.Gains
/-! Non-vacuity: two completed securities and one that errored; settlements straddling a year
    boundary; a registered row (no gain).  Years are `day / 365`. -/
private def exY (d : Int) : Int := d / 365
private def exA : SecResult := { ok := true, rows := [
  { day := 100, gain := none }, { day := 200, gain := some (5/2) }, { day := 364, gain := some (-1) },
  { day := 365, gain := some 4 }, { day := 800, gain := none } ] }
private def exB : SecResult := { ok := true, rows := [ { day := 366, gain := some (1/3) }, { day := 1100, gain := some 7 } ] }
private def exC : SecResult := { ok := false, rows := [ { day := 10, gain := some 1000 } ] }
private def exAgg : CG := aggGains id id (completed exY [exA, exC, exB])

example : (secGains exY exA.rows).sortedYears = [0, 1] ∧ (secGains exY exA.rows).total = 11/2 ∧
    (secGains exY exA.rows).byYear 0 = some (3/2) ∧ (secGains exY exA.rows).byYear 1 = some 4 := by decide +kernel
example : exAgg.sortedYears = [0, 1, 3] ∧ exAgg.total = 77/6 ∧
    exAgg.byYear 0 = some (3/2) ∧ exAgg.byYear 1 = some (13/3) ∧ exAgg.byYear 3 = some 7 := by decide +kernel
example : aggTable false exAgg = [(some 0, 3/2), (some 1, 433/100), (some 3, 7), (none, 1283/100)] := by decide +kernel
example : roundCent (1005/1000) = 101/100 ∧ roundCent (-1005/1000) = -101/100 ∧ roundCent (1004/1000) = 1 := by
  decide +kernel
end Acb.Gains
