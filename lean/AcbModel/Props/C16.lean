/-
  C16 — `--symbol-base` equals an opening purchase (ledger level).
-/
import AcbModel.Lemmas.Opening
import AcbModel.Props.C08
import AcbModel.Generated.AppConsts
namespace Acb
open Spec

/-- C16 (ledger level).  For a positive share count `n` and any cost `c`, running the ledger
    on the rows with the purchase "default affiliate buys `n` shares for a total of `c`" prepended,
    dated more than 30 days before every later sale, produces that purchase's row followed by
    exactly the deltas (and the same failure, if any) that the opening position `SYM:n:c` produces
    — for every list of rows, of any length, erroneous or not. -/
theorem C16_equiv (dflt : Aff) (hd : dflt.registered = false) (n c : Rat) (hn : 0 < n) (day : Int)
    (txs : List Tx) (hne : txs ≠ [])
    (hfar : ∀ x ∈ txs, FarBefore (openingBuy dflt n c day) x) :
    deltaList dflt none (openingBuy dflt n c day :: txs) =
      ({ tx := openingBuy dflt n c day, pre := defaultStatus dflt, post := openingStatus n c,
         gain := none, sfl := none } :: (deltaList dflt (some (openingStatus n c)) txs).1,
       (deltaList dflt (some (openingStatus n c)) txs).2) :=
  -- `hne` is not used: with no rows after the purchase both sides are the purchase's row alone
  deltaList_opening dflt hd n c (Rat.ne_of_gt hn) day txs hfar

/-- C16 (opening positions of other securities have no effect).  The result of security `s`
    depends on the opening positions only through the one given for `s`. -/
theorem C16_other_securities (dflt : Aff)
    (inits inits' : Nat → Option Status) (rows : List PRow) (s : Nat) (hs : ∃ r ∈ rows, r.sec = s)
    (h : inits s = inits' s) :
    resultFor s (runPipeline dflt inits rows) = resultFor s (runPipeline dflt inits' rows) := by
  rw [C08_table_local dflt inits rows s hs, C08_table_local dflt inits' rows s hs, h]

end Acb

namespace Acb
/-- C16 (malformed specifications are rejected before any processing).  In `command_main`
    the `--symbol-base` strings are parsed (and the run aborted on error) before any input file is
    opened; regenerated from `src/cmd.rs` on every run. -/
theorem C16_parsed_first : Gen.initStatusParsedBeforeFilesAreRead = true := by decide
end Acb
