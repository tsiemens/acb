import AcbModel.Basic.Num
import AcbModel.Basic.Text
import AcbModel.Generated.Constants
import AcbModel.Ledger.Types
import AcbModel.Ledger.Tracker
import AcbModel.Ledger.Sfl
import AcbModel.Ledger.Delta
import AcbModel.Ledger.Spec
import AcbModel.Ledger.Valid
import AcbModel.Lemmas.Lists
import AcbModel.Lemmas.Rats
import AcbModel.Lemmas.ValidCheck
import AcbModel.Lemmas.Rel
import AcbModel.Lemmas.ScanStep
import AcbModel.Lemmas.Tracker
import AcbModel.Lemmas.Step
import AcbModel.Lemmas.Loop
import AcbModel.Props.C01
import AcbModel.Lemmas.SumOver
import AcbModel.Lemmas.Sum
import AcbModel.Lemmas.Wf
import AcbModel.Lemmas.ScanInv
import AcbModel.Lemmas.WfLoop
import AcbModel.App.Pipeline
import AcbModel.Lemmas.Isort
import AcbModel.Lemmas.SortRows
import AcbModel.Lemmas.SecTxs
import AcbModel.Props.C04
import AcbModel.Props.C05
import AcbModel.Props.C08
import AcbModel.Lemmas.Conserve
import AcbModel.Lemmas.Adjust
import AcbModel.Lemmas.Blocks
import AcbModel.Props.C03
import AcbModel.Lemmas.Window
import AcbModel.Props.C02
import AcbModel.Generated.AppConsts
import AcbModel.Lemmas.Opening
import AcbModel.Props.C16
import AcbModel.Props.C15
import AcbModel.Basic.Date
import AcbModel.App.Summary
import AcbModel.Props.C10
import AcbModel.Generated.BrokerPdf
import AcbModel.Broker.Pages
import AcbModel.Broker.Fmv
import AcbModel.Lemmas.Pages
import AcbModel.Lemmas.Fmv
import AcbModel.Props.C20
import AcbModel.Broker.Etrade
import AcbModel.Lemmas.Etrade
import AcbModel.Props.C19
import AcbModel.Generated.Questrade
import AcbModel.Broker.Sheet
import AcbModel.Broker.FxTracker
import AcbModel.Broker.Questrade
import AcbModel.Broker.Spec
import AcbModel.Broker.Examples
import AcbModel.Lemmas.QtConvert
import AcbModel.Lemmas.QtRow
import AcbModel.Lemmas.QtFx
import AcbModel.Lemmas.QtOrder
import AcbModel.Lemmas.QtPipeline
import AcbModel.Lemmas.QtAccept
import AcbModel.Lemmas.QtLayout
import AcbModel.Lemmas.QtExample
import AcbModel.Props.C18
import AcbModel.Generated.CsvTables
import AcbModel.App.CsvText
import AcbModel.App.CsvCodec
import AcbModel.Lemmas.CsvText
import AcbModel.Lemmas.CsvDec
import AcbModel.Lemmas.CsvCells
import AcbModel.Lemmas.CsvSplit
import AcbModel.Lemmas.CsvRows
import AcbModel.Lemmas.CsvTable
import AcbModel.Lemmas.CsvAffiliate
import AcbModel.Props.C11
import AcbModel.App.Order
import AcbModel.App.Layout
import AcbModel.Lemmas.Order
import AcbModel.Lemmas.Layout
import AcbModel.Props.C07
import AcbModel.Props.C04b
import AcbModel.Generated.Fx
import AcbModel.Fx.Rates
import AcbModel.Fx.Loader
import AcbModel.Fx.Valid
import AcbModel.Fx.Civil
import AcbModel.Fx.Row
import AcbModel.Fx.Json
import AcbModel.Lemmas.FxFill
import AcbModel.Lemmas.FxRun
import AcbModel.Lemmas.FxSpec
import AcbModel.Lemmas.FxCivil
import AcbModel.Lemmas.FxExamples
import AcbModel.Props.C12
import AcbModel.Lemmas.FxHist
import AcbModel.Props.C13
import AcbModel.Fx.CacheFile
import AcbModel.Fx.CrashFs
import AcbModel.Lemmas.FxCacheFile
import AcbModel.Lemmas.FxCrash
import AcbModel.Props.C14
import AcbModel.Lemmas.FxDateText
import AcbModel.Generated.AppReports
import AcbModel.Basic.Sort
import AcbModel.App.Year
import AcbModel.App.Costs
import AcbModel.App.CostsSpec
import AcbModel.Lemmas.KeyList
import AcbModel.Lemmas.Costs
import AcbModel.Props.C17
import AcbModel.Props.C17b
import AcbModel.Props.C17c
import AcbModel.Props.C05b
import AcbModel.Lemmas.CostRows
import AcbModel.App.Gains
import AcbModel.Lemmas.Round
import AcbModel.Lemmas.Gains
import AcbModel.Props.C06
import AcbModel.App.Splits
import AcbModel.App.Orders
import AcbModel.Lemmas.Orders
import AcbModel.Props.C09
import AcbModel.Props.C09b
import AcbModel.Lemmas.Lockstep
import AcbModel.Lemmas.Scaling
import AcbModel.Lemmas.ScaleScan
import AcbModel.Lemmas.ScaleSfl
import AcbModel.Lemmas.ScaleStep
import AcbModel.Lemmas.SumInv
import AcbModel.Lemmas.SplitRows
import AcbModel.Lemmas.ScaleLoop
import AcbModel.Lemmas.BeforeSplit
import AcbModel.Props.C15b
import AcbModel.Props.C08b
import AcbModel.Lemmas.Observables
import AcbModel.Lemmas.WindowErase
import AcbModel.Lemmas.RunSim
import AcbModel.Lemmas.Carry
import AcbModel.Lemmas.RunDeltas
import AcbModel.Lemmas.SummaryReplay
import AcbModel.Lemmas.SummaryRange
import AcbModel.Lemmas.SummaryRows
import AcbModel.Lemmas.SummaryCut
import AcbModel.Props.C10b
import AcbModel.Props.C10c
import AcbModel.Props.C10d
import AcbModel.Props.C02b
import AcbModel.Props.C02c
import AcbModel.Props.C10e
import AcbModel.Props.C03b
import AcbModel.Props.C04c
import AcbModel.Props.C16b
import AcbModel.Props.C01b
import AcbModel.Props.C04d
import AcbModel.Lemmas.RestateRow
import AcbModel.Props.C15c
